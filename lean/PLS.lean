import PLS.Generated
import PLS.Model.Basic
import PLS.Model.Text
import PLS.Model.Resolve
import PLS.Model.Py
import PLS.Model.Analyze
import PLS.Model.Index
import PLS.Model.Cycles
import PLS.Model.Scan
import PLS.Model.Venv
import PLS.Model.Config
import PLS.Model.Conc
import PLS.Model.Conc10
import PLS.Model.Locks
import PLS.Lemmas.Conc
import PLS.Model.Cli
import PLS.Model.Lsp
import PLS.Model.Completion
import PLS.Spec.Pytest
import PLS.Lemmas.Resolve
import PLS.Lemmas.Bridge
import PLS.Lemmas.Order
import PLS.Lemmas.History
import PLS.Lemmas.Imports
import PLS.Lemmas.Analyze
import PLS.Lemmas.Dfs
import PLS.Lemmas.List
import PLS.Lemmas.Alist
import PLS.Lemmas.Span
import PLS.Props.C01
import PLS.Props.C02
import PLS.Props.C03
import PLS.Props.C04
import PLS.Props.C04H
import PLS.Props.C05
import PLS.Props.C05H
import PLS.Props.C06
import PLS.Props.C07
import PLS.Props.C08
import PLS.Props.C09
import PLS.Props.C10
import PLS.Props.C10B
import PLS.Props.C10R
import PLS.Props.C11
import PLS.Props.C12
import PLS.Props.C12T
import PLS.Props.C12I
import PLS.Props.C12S
import PLS.Props.C13
import PLS.Props.C14
import PLS.Props.C14I
import PLS.Props.C14P
import PLS.Props.C06I
import PLS.Props.C03Y
import PLS.Props.C16P
import PLS.Props.C15W
import PLS.Props.C14M
import PLS.Props.C15
import PLS.Props.C16
import PLS.Props.C16T
import PLS.Props.C16C
import PLS.Props.C17
import PLS.Props.C18
import PLS.Props.C19
import PLS.Props.C20
