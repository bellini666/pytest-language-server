/-
  PLS.Lemmas.Alist — the association lists of `Model/Index.lean` (`alookup`, `aerase`, `ainsert`, `ahas`).
-/
import PLS.Model.Index
import PLS.Lemmas.List
namespace PLS

theorem alookup_nil {β} (f : Path) : alookup ([] : List (Path × β)) f = none := rfl

theorem alookup_cons {β} (p : Path × β) (ps : List (Path × β)) (k : Path) :
    alookup (p :: ps) k = if p.1 == k then some p.2 else alookup ps k := by
  unfold alookup
  rw [List.find?_cons]
  cases (p.1 == k) <;> rfl

theorem alookup_append {β} (l m : List (Path × β)) (k : Path) :
    alookup (l ++ m) k = (alookup l k).orElse (fun _ => alookup m k) := by
  unfold alookup
  rw [List.find?_append]
  cases List.find? (fun p => p.1 == k) l <;> rfl

/-- the idiom of `pushUsage` / `pushUndeclared` -/
theorem alookup_mapAt {β} (l : List (Path × β)) (f : Path) (g : β → β) :
    alookup (l.map (fun p => if p.1 == f then (p.1, g p.2) else p)) f = (alookup l f).map g := by
  induction l with
  | nil => rfl
  | cons p ps ih =>
    rw [List.map_cons, alookup_cons, alookup_cons]
    cases hp : p.1 == f with
    | true => simp only [if_true, hp, Option.map_some]
    | false => simp only [Bool.false_eq_true, if_false, hp, ih]

theorem alookup_aerase {β} (l : List (Path × β)) (k k' : Path) :
    alookup (aerase l k) k' = if k' = k then none else alookup l k' := by
  unfold alookup aerase
  rw [find?_filter_and]
  split
  · subst k'
    rw [List.find?_eq_none.mpr (by simp)]; rfl
  · rename_i h
    congr 2
    funext p
    cases hp : p.1 == k' with
    | false => rfl
    | true => exact bne_iff_ne.mpr (beq_iff_eq.mp hp ▸ h)

theorem alookup_ainsert {β} (l : List (Path × β)) (k k' : Path) (v : β) :
    alookup (ainsert l k v) k' = if k' = k then some v else alookup l k' := by
  unfold ainsert
  rw [alookup_append, alookup_aerase, alookup_cons]
  by_cases h : k' = k
  · rw [if_pos h, if_pos h, if_pos (beq_iff_eq.mpr h.symm)]; rfl
  · rw [if_neg h, if_neg h, if_neg (fun e => h (beq_iff_eq.mp e).symm)]
    cases alookup l k' <;> rfl

theorem alookup_aerase_self {β} (l : List (Path × β)) (k : Path) : alookup (aerase l k) k = none := by
  rw [alookup_aerase, if_pos rfl]

theorem alookup_ainsert_self {β} (l : List (Path × β)) (k : Path) (v : β) : alookup (ainsert l k v) k = some v := by
  rw [alookup_ainsert, if_pos rfl]

theorem alookup_ainsert_ne {β} (l : List (Path × β)) (k k' : Path) (v : β) (h : k' ≠ k) :
    alookup (ainsert l k v) k' = alookup l k' := by
  rw [alookup_ainsert, if_neg h]

theorem ahas_eq_isSome {β} (l : List (Path × β)) (k : Path) : ahas l k = (alookup l k).isSome := by
  rw [Bool.eq_iff_iff, ahas, alookup, Option.isSome_map, List.any_eq_true, List.find?_isSome]

theorem ahas_ainsert_eq {β} (l : List (Path × β)) (k x : Path) (v : β) :
    ahas (ainsert l k v) x = (x == k || ahas l x) := by
  rw [ahas_eq_isSome, ahas_eq_isSome, alookup_ainsert]
  by_cases h : x = k
  · rw [if_pos h, beq_iff_eq.mpr h]; rfl
  · rw [if_neg h, beq_eq_false_iff_ne.mpr h]; rfl

theorem ahas_of_alookup {β} {l : List (Path × β)} {k : Path} {v : β} (h : alookup l k = some v) : ahas l k = true := by
  rw [ahas_eq_isSome, h]; rfl

theorem alookup_of_not_ahas {β} {l : List (Path × β)} {k : Path} (h : ahas l k = false) : alookup l k = none := by
  rwa [ahas_eq_isSome, Option.isSome_eq_false_iff, Option.isNone_iff_eq_none] at h

theorem ahas_iff_mem_keys {β} {l : List (Path × β)} {k : Path} : ahas l k = true ↔ k ∈ l.map (·.1) := by
  simp only [ahas, List.any_eq_true, beq_iff_eq, List.mem_map]

theorem mem_getD_alookup {l : List (Path × List String)} {g : Path} {n : String} :
    n ∈ (alookup l g).getD [] ↔ ∃ ns, alookup l g = some ns ∧ n ∈ ns := by
  cases alookup l g <;> simp

end PLS
