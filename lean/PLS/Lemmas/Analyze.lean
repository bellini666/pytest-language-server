/-
  PLS.Lemmas.Analyze — what the events of a function definition, of its marks and of a fixture assignment can be
  (`mem_*`), and the one invariant the events of every statement keep (`Event.For`).
-/
import PLS.Model.Analyze
import PLS.Lemmas.History
namespace PLS

theorem eventDefs_map_usage {α} (l : List α) (g : α → Usage) : eventDefs (l.map (fun x => Event.usage (g x))) = [] := by
  induction l with
  | nil => rfl
  | cons x xs ih => exact ih

theorem eventDefs_argUsages (f : Path) (l : List Arg) : eventDefs (l.map (argUsage f)) = [] :=
  eventDefs_map_usage l _

theorem eventUsages_file_strUsages (f : Path) (l : List (String × Range)) :
    ∀ u ∈ eventUsages (l.map (strUsage f lines)), u.file = f := by
  intro u hu
  induction l with
  | nil => cases hu
  | cons x xs ih => exact (List.mem_cons.mp hu).elim (fun e => e ▸ rfl) ih

section
variable {f : Path} {lines : List Chars} {mn : List String} {e : Event}

theorem mem_marks {α} {g : α → List (String × Range)} {l : List α}
    (h : e ∈ l.flatMap (fun d => (g d).map (strUsage f lines))) : ∃ x, e = strUsage f lines x := by
  obtain ⟨_, _, h⟩ := List.mem_flatMap.mp h
  obtain ⟨x, _, rfl⟩ := List.mem_map.mp h
  exact ⟨x, rfl⟩

theorem mem_testEvents {name args body r} (h : e ∈ testEvents f mn name args body r) :
    (∃ a, e = argUsage f a) ∨
    e = .scan ⟨name, r.line, ["self", "request"] ++ args.all.map (·.name),
      localsOf body ++ mn.map (fun n => (n, 0)), refsOfStmts body⟩ := by
  revert h
  fun_cases testEvents f mn name args body r with
  | case1 =>  -- the name starts with `test_`
    intro h
    rcases List.mem_append.mp h with h | h
    · obtain ⟨a, _, rfl⟩ := List.mem_map.mp h; exact .inl ⟨a, rfl⟩
    · exact .inr (List.mem_singleton.mp h)
  | case2 => nofun  -- not a test: no events

theorem mem_fixtureEvents {name deco args ret body r doc}
    (h : e ∈ fixtureEvents f lines mn name deco args ret body r doc) :
    e = .defn (fixtureDef f lines name deco args ret body r doc) ∨ (∃ a, e = argUsage f a) ∨
    e = .scan ⟨name, r.line, ["self", "request", name] ++ args.all.map (·.name),
      localsOf body ++ mn.map (fun n => (n, 0)), refsOfStmts body⟩ := by
  unfold fixtureEvents at h
  rcases List.mem_append.mp h with h | h
  · rcases List.mem_append.mp h with h | h
    · exact .inl (List.mem_singleton.mp h)
    · obtain ⟨a, _, rfl⟩ := List.mem_map.mp h; exact .inr (.inl ⟨a, rfl⟩)
  · exact .inr (.inr (List.mem_singleton.mp h))

theorem mem_visitFunction {name decos args ret body r}
    (h : e ∈ visitFunction f lines mn name decos args ret body r) :
    (∃ x, e = strUsage f lines x) ∨ e ∈ testEvents f mn name args body r ∨
    ∃ deco, e ∈ fixtureEvents f lines mn name deco args ret body r (docstringOf body) := by
  revert h
  fun_cases visitFunction f lines mn name decos args ret body r <;> intro h <;>
    rcases List.mem_append.mp h with h | h
  · exact .inl ((List.mem_append.mp h).elim mem_marks mem_marks)  -- no fixture decorator: the marks …
  · exact .inr (.inl h)                                            -- … and `testEvents`
  · exact .inl ((List.mem_append.mp h).elim mem_marks mem_marks)  -- a decorated fixture: the marks …
  · exact .inr (.inr ⟨_, h⟩)                                       -- … and `fixtureEvents`

theorem mem_visitAssignFixture {ts v r} (h : e ∈ visitAssignFixture f ts v r) :
    ∃ t d, assignTargetDef f r t = some d ∧ e = .defn d := by
  revert h
  fun_cases visitAssignFixture f ts v r with
  | case1 =>  -- the value is `fixture(…)(…)`
    intro h
    obtain ⟨d, hd, rfl⟩ := List.mem_map.mp h
    obtain ⟨t, _, ht⟩ := List.mem_filterMap.mp hd
    exact ⟨t, d, ht, rfl⟩
  | case2 | case3 => nofun  -- any other value: no events

theorem assignTargetDef_file {r : Range} {t : Expr} {d : Def}
    (h : assignTargetDef f r t = some d) : d.file = f := by
  unfold assignTargetDef at h
  split at h
  · cases h; rfl
  · cases h

end

/-- it is the `.panic` clause that makes `visitStmts_for` the no-panic theorem (C11); `EventsFor f`
    is the `.defn` clause alone, said of a list -/
def Event.For (f : Path) : Event → Prop
  | .defn d => d.file = f
  | .usage u => u.file = f
  | .scan _ => True
  | .panic => False

theorem visitFunction_for {f lines mn name decos args ret body r e}
    (h : e ∈ visitFunction f lines mn name decos args ret body r) : e.For f := by
  rcases mem_visitFunction h with ⟨_, rfl⟩ | h | ⟨_, h⟩
  · rfl
  · rcases mem_testEvents h with ⟨_, rfl⟩ | rfl
    · rfl
    · exact True.intro
  · rcases mem_fixtureEvents h with rfl | ⟨_, rfl⟩ | rfl
    · rfl
    · rfl
    · exact True.intro

mutual
  theorem visitStmt_for (f : Path) (lines : List Chars) (mn : List String) (s : Stmt) :
      ∀ e ∈ visitStmt f lines mn s, e.For f := by
    intro e h
    cases s with
    | funcDef => exact visitFunction_for h
    | classDef _ _ body _ =>
      rcases List.mem_append.mp h with h | h
      · obtain ⟨_, rfl⟩ := mem_marks h; rfl
      · exact visitStmts_for f lines mn body _ h
    | assign =>
      rcases List.mem_append.mp h with h | h
      · obtain ⟨_, _, ht, rfl⟩ := mem_visitAssignFixture h
        exact assignTargetDef_file ht
      · split at h  -- is a target `pytestmark`?
        · obtain ⟨_, _, rfl⟩ := List.mem_map.mp h; rfl
        · cases h
    | annAssign _ v _ =>
      unfold visitStmt at h
      split at h  -- is the target `pytestmark`?
      · cases v with
        | none => cases h
        | some v => obtain ⟨_, _, rfl⟩ := List.mem_map.mp h; rfl
      · cases h
    | _ => exact (List.not_mem_nil h).elim
  theorem visitStmts_for (f : Path) (lines : List Chars) (mn : List String) :
      (ss : List Stmt) → ∀ e ∈ visitStmts f lines mn ss, e.For f
    | [] => fun _ h => (List.not_mem_nil h).elim
    | s :: ss => fun _ h =>
      (List.mem_append.mp h).elim (visitStmt_for f lines mn s _) (visitStmts_for f lines mn ss _)
end

theorem cutAtPanic_eq_self {es : List Event} (h : Event.panic ∉ es) : cutAtPanic es = es := by
  fun_induction cutAtPanic es with
  | case1 => rfl
  | case2 => exact absurd List.mem_cons_self h  -- `.panic :: _`
  | case3 e es _ ih => rw [ih fun h' => h (List.mem_cons_of_mem _ h')]

theorem analyzeModule_events (stdlib : List String) (f : Path) (text : Chars) (body : List Stmt) :
    (analyzeModule stdlib f text body).events = visitStmts f (linesOf text) (moduleLevelNames body) body :=
  cutAtPanic_eq_self (fun h => visitStmts_for _ _ _ _ _ h)

end PLS
