/-
  PLS.Lemmas.Bridge — the state-threading walk (`walkUpM`, `resolveFM`) answers like the pure
  walk for every oracle that agrees with what the import test said at the conftests it visited.
-/
import PLS.Lemmas.Resolve
namespace PLS

/-- the oracle "what `impM` answered during the walk from state `s`" -/
def walkOracle {σ : Type} (impM : Path → σ → Bool × σ) : List Path → σ → Path → Bool
  | [], _ => fun _ => false
  | dir :: rest, s =>
      fun c => if c = conftestOf dir then (impM (conftestOf dir) s).1
               else walkOracle impM rest (impM (conftestOf dir) s).2 c

theorem walkUpM_eq {σ : Type} (ds : List Def) (filt : Def → Bool) (impM : Path → σ → Bool × σ)
    (dirs : List Path) (hn : dirs.Nodup) (s : σ) (imp : Path → Bool)
    (himp : ∀ x ∈ dirs, imp (conftestOf x) = walkOracle impM dirs s (conftestOf x)) :
    (walkUpM ds filt impM dirs s).1 = walkUp ds filt imp dirs := by
  induction dirs generalizing s with
  | nil => rfl
  | cons dir rest ih =>
    obtain ⟨hnot, hnr⟩ := List.nodup_cons.mp hn
    have hhead : imp (conftestOf dir) = (impM (conftestOf dir) s).1 := (himp dir (.head _)).trans (if_pos rfl)
    -- `dir` does not recur (`hn`): on the conftests of `rest` the whole walk's oracle is the rest's
    have hrest := ih hnr (impM (conftestOf dir) s).2 fun x hx =>
      (himp x (.tail _ hx)).trans (if_neg fun he => hnot ((conftestOf_inj he : x = dir) ▸ hx))
    rw [walkUp, hhead, ← hrest, walkUpM]
    cases ds.find? (fun d => d.file == conftestOf dir && filt d) with
    | some d => rfl
    | none =>
      rcases impM (conftestOf dir) s with ⟨_ | _, s'⟩
      · rfl
      · cases ds.find? filt <;> rfl

/-- `himp` asks for agreement on the walk only, so an oracle that is exact everywhere (when the
    import test is) qualifies; `walkOracle` itself says `false` off the walk -/
theorem resolveFM_bridge {σ : Type} (ix : List Def) (impM : String → Path → σ → Bool × σ) (f : Path)
    (n : String) (filt : Def → Bool) (s : σ) (imp : Path → Bool)
    (himp : ∀ x ∈ ancestorsOfDir (dirOf f),
      imp (conftestOf x) = walkOracle (impM n) (ancestorsOfDir (dirOf f)) s (conftestOf x)) :
    (resolveFM ix impM f n filt s).1 = resolveF ix (fun c _ => imp c) f n filt := by
  have hw := walkUpM_eq (defsOf ix n) filt (impM n) _ (ancestors_nodup (dirOf f)) s imp himp
  unfold resolveFM resolveF
  dsimp only
  rw [← hw]
  cases maxByLine ((defsOf ix n).filter (fun d => d.file == f && filt d)) with
  | some d => rfl
  | none =>
    rcases walkUpM (defsOf ix n) filt (impM n) (ancestorsOfDir (dirOf f)) s with ⟨_ | d, s'⟩
    · dsimp only
      cases (defsOf ix n).find? (fun d => d.plugin && !d.thirdParty && filt d) <;> rfl
    · rfl

end PLS
