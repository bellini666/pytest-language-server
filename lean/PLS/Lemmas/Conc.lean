/-
  PLS.Lemmas.Conc — the invariant behind C09 (`Inv`): a thread's steps act on its own file's
  projection as if it ran alone (`own_step`) and leave every other file's untouched (`other_step`).
-/
import PLS.Model.Conc
import PLS.Lemmas.List
namespace PLS.Conc

theorem projF_append (G : File) (l₁ l₂ : List Ent) : projF G (l₁ ++ l₂) = projF G l₁ ++ projF G l₂ :=
  List.filter_append ..

theorem projF_drop (F G : File) (l : List Ent) :
    projF G (l.filter (fun e => e.file != F)) = if G = F then [] else projF G l := by
  unfold projF; rw [filter_beq_filter_bne]; simp only [beq_iff_eq]

theorem projF_single (F G : File) (t : Nat) : projF G [⟨F, t⟩] = if G = F then [⟨F, t⟩] else [] := by
  unfold projF; rw [filter_beq_of_forall (a := F) fun _ h => by rw [List.mem_singleton.mp h]]; simp only [beq_iff_eq]

theorem ents_retain (m : Map) (F : File) (flag : Bool) (k k' : Key) :
    ents (stepInstr m F flag (.retain k)).1 k' =
      if k' = k then (ents m k').filter (fun e => e.file != F) else ents m k' := by
  unfold stepInstr
  dsimp only
  by_cases hk : k' = k
  · subst hk; cases hm : m k' <;> simp [ents, hm]
  · cases m k <;> simp [ents_upd_other, hk]

theorem stepInstr_condRemove (m : Map) (F : File) (flag : Bool) (k : Key) :
    (stepInstr m F flag (.condRemove k)).1 = if flag = true ∧ m k = some [] then upd m k none else m := by
  unfold stepInstr
  dsimp only
  by_cases hfl : flag = true
  · rw [if_pos hfl]
    split
    · rename_i hm; rw [if_pos ⟨hfl, hm⟩]
    · rename_i hm; rw [if_neg fun h => hm h.2]
  · rw [if_neg hfl, if_neg fun h => hfl h.1]

/-- the removal only turns `some []` into `none`, which `ents` reads alike -/
theorem ents_condRemove (m : Map) (F : File) (flag : Bool) (k k' : Key) :
    ents (stepInstr m F flag (.condRemove k)).1 k' = ents m k' := by
  rw [stepInstr_condRemove]
  split
  · rename_i h
    by_cases hk : k' = k
    · subst k'; rw [ents_upd_same, ents, h.2]; rfl
    · exact ents_upd_other _ _ _ _ hk
  · rfl

theorem ents_push (m : Map) (F : File) (flag : Bool) (k : Key) (t : Nat) (k' : Key) :
    ents (stepInstr m F flag (.push k t)).1 k' =
      if k' = k then ents m k' ++ [⟨F, t⟩] else ents m k' := by
  simp only [stepInstr]
  split
  · subst k'; exact ents_upd_same ..
  · rename_i hk; exact ents_upd_other _ _ _ _ hk

theorem own_step (m : Map) (F : File) (flag : Bool) (ins : Instr) :
    (fun k => projF F (ents (stepInstr m F flag ins).1 k)) =
      lstep F (fun k => projF F (ents m k)) ins := by
  funext k'
  cases ins with
  | retain k => rw [ents_retain, apply_ite (projF F), projF_drop, if_pos rfl]; rfl
  | condRemove k => rw [ents_condRemove]; rfl
  | push k t => rw [ents_push, apply_ite (projF F), projF_append, projF_single, if_pos rfl]; rfl

theorem other_step {F G : File} (hFG : G ≠ F) (m : Map) (flag : Bool) (ins : Instr) (k' : Key) :
    projF G (ents (stepInstr m F flag ins).1 k') = projF G (ents m k') := by
  cases ins with
  | retain k => rw [ents_retain, apply_ite (projF G), projF_drop, if_neg hFG, ite_self]
  | condRemove k => rw [ents_condRemove]
  | push k t =>
    rw [ents_push, apply_ite (projF G), projF_append, projF_single, if_neg hFG, List.append_nil, ite_self]

/-- where an empty vector comes from: this is what keeps `Inv.wit` -/
theorem stepInstr_some_nil {m : Map} {F : File} {flag : Bool} {ins : Instr} {k : Key}
    (h : (stepInstr m F flag ins).1 k = some []) :
    (ins = .retain k ∧ (stepInstr m F flag ins).2 = true) ∨
    (m k = some [] ∧ (flag = true → ins ≠ .condRemove k)) := by
  revert h
  fun_cases stepInstr m F flag ins with
  | case1 k1 hm => exact fun h => .inr ⟨h, fun _ => Instr.noConfusion⟩  -- `retain` of an absent key
  | case2 k1 v hm v' =>  -- `retain` of a present key
    dsimp only
    intro h
    by_cases hk : k = k1
    · subst hk
      rw [upd_same] at h
      exact .inl ⟨rfl, by rw [Option.some.inj h]; rfl⟩
    · rw [upd_other _ _ _ _ hk] at h; exact .inr ⟨h, fun _ => Instr.noConfusion⟩
  | case3 k1 hfl hm =>  -- `condRemove` removes
    dsimp only
    intro h
    by_cases hk : k = k1
    · subst hk; rw [upd_same] at h; cases h
    · rw [upd_other _ _ _ _ hk] at h; exact .inr ⟨h, fun _ e => hk (Instr.condRemove.inj e).symm⟩
  | case4 k1 hfl hm =>  -- `condRemove`, flag set, not `some []`
    exact fun h => .inr ⟨h, fun _ e => hm (Instr.condRemove.inj e ▸ h)⟩
  | case5 k1 hfl => exact fun h => .inr ⟨h, fun hf => absurd hf hfl⟩  -- `condRemove`, flag not set
  | case6 k1 t =>  -- `push`
    dsimp only
    intro h
    by_cases hk : k = k1
    · subst hk; rw [upd_same] at h; cases List.append_eq_nil_iff.mp (Option.some.inj h) |>.2
    · rw [upd_other _ _ _ _ hk] at h; exact .inr ⟨h, fun _ => Instr.noConfusion⟩

/-- what can be left of a `program olds news` while it runs; the proofs use it through `WFProg.of_cons` -/
def WFProg (p : List Instr) : Prop :=
  (∃ olds news, p = program olds news) ∨ (∃ k olds news, p = .condRemove k :: program olds news)

theorem program_cons (k : Key) (olds news) :
    program (k :: olds) news = .retain k :: .condRemove k :: program olds news :=
  rfl
theorem program_nil_cons (kt : Key × Nat) (news) :
    program [] (kt :: news) = .push kt.1 kt.2 :: program [] news :=
  rfl

theorem WFProg.of_cons {ins : Instr} {rest : List Instr} (h : WFProg (ins :: rest)) :
    WFProg rest ∧ ∀ k, ins = .retain k → ∃ rest', rest = .condRemove k :: rest' := by
  rcases h with ⟨olds, news, heq⟩ | ⟨k, olds, news, heq⟩
  · cases olds with
    | nil =>
      cases news with
      | nil => cases heq
      | cons kt news =>
        rw [program_nil_cons] at heq
        cases heq; exact ⟨.inl ⟨[], news, rfl⟩, fun _ e => Instr.noConfusion e⟩
    | cons k olds =>
      rw [program_cons] at heq
      cases heq; exact ⟨.inr ⟨k, olds, news, rfl⟩, fun _ e => by cases e; exact ⟨_, rfl⟩⟩
  · cases heq; exact ⟨.inl ⟨olds, news, rfl⟩, fun _ e => Instr.noConfusion e⟩

/-- the threads afterwards are given position by position, so that no user sees `List.set` -/
theorem stepSys_cases (s : Sys) (i : Nat) :
    (stepSys s i = s ∧ ∀ t, s.ts[i]? = some t → t.prog = []) ∨
    ∃ t ins rest, s.ts[i]? = some t ∧ t.prog = ins :: rest ∧
      (stepSys s i).m = (stepInstr s.m t.file t.flag ins).1 ∧
      (stepSys s i).ts[i]? = some { t with flag := (stepInstr s.m t.file t.flag ins).2, prog := rest } ∧
      ∀ j, i ≠ j → (stepSys s i).ts[j]? = s.ts[j]? := by
  unfold stepSys
  cases hti : s.ts[i]? with
  | none => exact .inl ⟨rfl, fun _ h => nomatch h⟩
  | some t =>
    dsimp only
    cases hp : t.prog with
    | nil => exact .inl ⟨rfl, fun _ h => Option.some.inj h ▸ hp⟩
    | cons ins rest =>
      exact .inr ⟨t, ins, rest, rfl, hp, rfl, List.getElem?_set_self (List.getElem?_eq_some_iff.mp hti).1,
        fun _ hij => List.getElem?_set_ne hij⟩

theorem stepSys_files (s : Sys) (i : Nat) : (stepSys s i).ts.map (·.file) = s.ts.map (·.file) := by
  apply List.ext_getElem? fun j => ?_
  rw [List.getElem?_map, List.getElem?_map]
  rcases stepSys_cases s i with ⟨e, _⟩ | ⟨t, ins, rest, hti, _, _, hself, hothers⟩
  · rw [e]
  · by_cases hij : i = j
    · subst j; rw [hself, hti]; rfl
    · rw [hothers j hij]

theorem run_files (s : Sys) (sched : List Nat) : (run s sched).ts.map (·.file) = s.ts.map (·.file) :=
  List.foldlRecOn (motive := fun s' => s'.ts.map (·.file) = s.ts.map (·.file)) sched stepSys rfl
    fun s' hs i _ => (stepSys_files s' i).trans hs

/-- the invariant of all schedules: `s0` is the initial system, `s` the one reached -/
structure Inv (s0 s : Sys) : Prop where
  /-- `inv_step` needs it to use `hnd` and the hypothesis of `other` at `s` -/
  files : s.ts.map (·.file) = s0.ts.map (·.file)
  /-- the idea: what is left of a thread's program, run alone on the present projection of its own file, ends
      where its whole program ends on the initial projection; once the program is empty (`conc_final`) the
      left side is the projection itself -/
  work : ∀ (i : Nat) (t0 : Thread), s0.ts[i]? = some t0 → ∃ t, s.ts[i]? = some t ∧ t.file = t0.file ∧
      lrun t.file (fun k => projF t.file (ents s.m k)) t.prog =
      lrun t0.file (fun k => projF t0.file (ents s0.m k)) t0.prog
  other : ∀ G, (∀ t ∈ s0.ts, t.file ≠ G) → ∀ k, projF G (ents s.m k) = projF G (ents s0.m k)
  wf : ∀ (i : Nat) (t : Thread), s.ts[i]? = some t → WFProg t.prog
  /-- an empty vector has a witness: a thread with the flag set whose next instruction removes it -/
  wit : ∀ k, s.m k = some [] →
      ∃ (i : Nat) (t : Thread), s.ts[i]? = some t ∧ t.flag = true ∧ ∃ rest, t.prog = .condRemove k :: rest

theorem inv_init (s0 : Sys) (hwf : ∀ t ∈ s0.ts, WFProg t.prog) (hne : ∀ k, s0.m k ≠ some []) :
    Inv s0 s0 :=
  { files := rfl
    work := fun _ t0 h0 => ⟨t0, h0, rfl, rfl⟩
    other := fun _ _ _ => rfl
    wf := fun _ t h => hwf t (List.mem_of_getElem? h)
    wit := fun k h => absurd h (hne k) }

theorem inv_step {s0 s : Sys} (hnd : (s0.ts.map (·.file)).Nodup) (h : Inv s0 s) (i : Nat) :
    Inv s0 (stepSys s i) := by
  have hfiles := (stepSys_files s i).trans h.files
  rcases stepSys_cases s i with ⟨e, _⟩ | ⟨t, ins, rest, hti, hp, hm, hself, hothers⟩
  · rw [e]; exact h
  have twf := WFProg.of_cons (hp ▸ h.wf i t hti)
  refine { files := hfiles, work := ?_, other := ?_, wf := ?_, wit := ?_ }
  · intro j u0 hu0
    obtain ⟨u, hu, hf, hw⟩ := h.work j u0 hu0
    rw [hm, ← hw]
    by_cases hij : i = j
    · subst j
      cases hti.symm.trans hu
      -- `lrun` is a `foldl`: on `ins :: rest` it is `lrun` on `rest` from `lstep … ins`
      exact ⟨_, hself, hf, hp ▸ congrArg (lrun t.file · rest) (own_step ..)⟩
    · have hne : u.file ≠ t.file := fun e => hij (idx_unique (h.files ▸ hnd) hu hti e.symm)
      exact ⟨u, (hothers j hij).trans hu, hf, congrArg (lrun u.file · u.prog) (funext fun k => other_step hne ..)⟩
  · intro G hG k
    rw [hm, ← h.other G hG k]
    refine other_step (fun e => ?_) ..
    have : t.file ∈ s0.ts.map (·.file) := h.files ▸ List.mem_map_of_mem (List.mem_of_getElem? hti)
    obtain ⟨t0, ht0, e0⟩ := List.mem_map.mp this
    exact hG t0 ht0 (e0.trans e.symm)
  · intro j u hu
    by_cases hij : i = j
    · subst j; cases hself.symm.trans hu; exact twf.1
    · exact h.wf j u ((hothers j hij).symm.trans hu)
  · intro k hk
    rw [hm] at hk
    rcases stepInstr_some_nil hk with ⟨rfl, hfl⟩ | ⟨hmk, hnot⟩
    · obtain ⟨r', hr'⟩ := twf.2 k rfl
      exact ⟨i, _, hself, hfl, r', hr'⟩
    · obtain ⟨j, u, hu, hfl, r, hr⟩ := h.wit k hmk
      have hij : i ≠ j := by
        rintro rfl
        cases hti.symm.trans hu
        exact hnot hfl (List.head_eq_of_cons_eq (hp.symm.trans hr))
      exact ⟨j, u, (hothers j hij).trans hu, hfl, r, hr⟩

theorem inv_run {s0 s : Sys} (hnd : (s0.ts.map (·.file)).Nodup) (h : Inv s0 s) (sched : List Nat) :
    Inv s0 (run s sched) :=
  List.foldlRecOn sched stepSys h fun _ hs i _ => inv_step hnd hs i

/-- **C09 on the model of one shared map: every complete schedule ends in the same per-file contents,
with no empty vector left behind.**  The right-hand sides do not mention the schedule. -/
theorem conc_final (s0 : Sys) (hnd : (s0.ts.map (·.file)).Nodup)
    (hwf : ∀ t ∈ s0.ts, WFProg t.prog) (hne : ∀ k, s0.m k ≠ some [])
    (sched : List Nat) (hdone : ∀ t ∈ (run s0 sched).ts, t.prog = []) :
    (∀ k, (run s0 sched).m k ≠ some []) ∧
    (∀ (i : Nat) (t0 : Thread), s0.ts[i]? = some t0 → ∀ k,
        projF t0.file (ents (run s0 sched).m k) =
          lrun t0.file (fun k => projF t0.file (ents s0.m k)) t0.prog k) ∧
    (∀ G, (∀ t ∈ s0.ts, t.file ≠ G) → ∀ k,
        projF G (ents (run s0 sched).m k) = projF G (ents s0.m k)) := by
  have hI := inv_run hnd (inv_init s0 hwf hne) sched
  refine ⟨?_, ?_, hI.other⟩
  · intro k hk
    obtain ⟨i, t, ht, _, r, hr⟩ := hI.wit k hk
    rw [hdone t (List.mem_of_getElem? ht)] at hr; cases hr
  · intro i t0 ht0 k
    obtain ⟨t, ht, hf, hw⟩ := hI.work i t0 ht0
    rw [hdone t (List.mem_of_getElem? ht), hf] at hw
    exact congrFun hw k

end PLS.Conc
