/-
  PLS.Lemmas.Dfs — one iteration of the cycle DFS (`dfsStep`, `Model/Cycles.lean`) as a relation between states
  (`Step`, `dfsStep_spec`), and induction along the loop (`dfsRun_induct`).
-/
import PLS.Model.Cycles
namespace PLS
namespace DfsT

/-- the recursion stack once the top frame `(cur, idx, path)` is entered: its first visit (`idx = 0`) puts `cur` on it -/
def rsIn (rs : List String) (cur : String) (idx : Nat) : List String := if idx = 0 then setInsert rs cur else rs
/-- likewise its path: the first visit appends `cur` -/
def pathIn (path : List String) (cur : String) (idx : Nat) : List String := if idx = 0 then path ++ [cur] else path

/-- the path reported for a dependency `dep` found on the recursion stack -/
def backPath (path : List String) (dep : String) : List String := path.drop ((indexOf? path dep).getD 0) ++ [dep]

/-- what looking at `dep` leaves in `seen` / `cycles` when no frame is pushed for it.  The model's branch for
    `cyDef ix dep = none` has no rule: `dep`, being in `cyDeps`, is a known name, and `dfsStep_spec` discharges it. -/
inductive Noted (ix : List Def) (vis seen : List String) (cycles : List Cycle) (rs path : List String) (dep : String) :
    List String → List Cycle → Prop
  | skip : dep ∉ rs → dep ∈ vis → Noted ix vis seen cycles rs path dep seen cycles
  | dup : dep ∈ rs → cycleKey (backPath path dep) ∈ seen → Noted ix vis seen cycles rs path dep seen cycles
  | new (d : Def) : dep ∈ rs → cycleKey (backPath path dep) ∉ seen → cyDef ix dep = some d →
      Noted ix vis seen cycles rs path dep (seen ++ [cycleKey (backPath path dep)]) (cycles ++ [⟨backPath path dep, d⟩])

/-- one iteration, as rules between literal states; `adv` is the three branches of the model that push nothing, told
    apart by `Noted` -/
inductive Step (ix : List Def) : Dfs → Dfs → Prop
  | pop {cur idx path rest rs vis seen cycles} : (cyDeps ix cur).length ≤ idx →
      Step ix ⟨(cur, idx, path) :: rest, rs, vis, seen, cycles⟩
        ⟨rest, (rsIn rs cur idx).filter (· != cur), setInsert vis cur, seen, cycles⟩
  | adv {cur idx path rest rs vis seen cycles dep seen' cycles'} : (cyDeps ix cur)[idx]? = some dep →
      Noted ix vis seen cycles (rsIn rs cur idx) (pathIn path cur idx) dep seen' cycles' →
      Step ix ⟨(cur, idx, path) :: rest, rs, vis, seen, cycles⟩
        ⟨(cur, idx + 1, pathIn path cur idx) :: rest, rsIn rs cur idx, vis, seen', cycles'⟩
  | push {cur idx path rest rs vis seen cycles dep} : (cyDeps ix cur)[idx]? = some dep →
      dep ∉ rsIn rs cur idx → dep ∉ vis →
      Step ix ⟨(cur, idx, path) :: rest, rs, vis, seen, cycles⟩
        ⟨(dep, 0, pathIn path cur idx) :: (cur, idx + 1, pathIn path cur idx) :: rest, rsIn rs cur idx, vis, seen, cycles⟩

theorem mem_setInsert {l : List String} {x y : String} : y ∈ setInsert l x ↔ y ∈ l ∨ y = x := by
  unfold setInsert
  split <;> simp_all

theorem mem_rsIn {rs : List String} {cur x : String} {idx : Nat} : x ∈ rsIn rs cur idx ↔ x ∈ rs ∨ idx = 0 ∧ x = cur := by
  unfold rsIn
  split <;> simp_all [mem_setInsert]

theorem backPath_append {dep : String} {pre : List String} (post : List String) (h : dep ∉ pre) :
    backPath (pre ++ dep :: post) dep = (dep :: post) ++ [dep] := by
  have go : ∀ k, indexOf?.go dep (pre ++ dep :: post) k = some (k + pre.length) := by
    induction pre with
    | nil => exact fun _ => if_pos (beq_iff_eq.mpr rfl)
    | cons y pre ih =>
      intro k
      rw [List.cons_append, indexOf?.go, if_neg (mt beq_iff_eq.mp (List.ne_of_not_mem_cons h).symm),
        ih (List.not_mem_of_not_mem_cons h), List.length_cons, Nat.add_right_comm, Nat.add_assoc]
  rw [backPath, indexOf?, go, Option.getD_some, Nat.zero_add, List.drop_left]

theorem mem_cyDeps {ix : List Def} {n m : String} :
    m ∈ cyDeps ix n ↔ ∃ d, cyDef ix n = some d ∧ m ∈ d.deps ∧ ∃ e ∈ ix, e.name = m := by
  unfold cyDeps
  cases cyDef ix n with
  | none => simp
  | some d => simp only [List.mem_filter, List.any_eq_true, beq_iff_eq, Option.some.injEq, exists_eq_left']

theorem cyDef_some_of_mem {ix : List Def} {m : String} (h : ∃ e ∈ ix, e.name = m) : ∃ d, cyDef ix m = some d := by
  obtain ⟨e, he, hn⟩ := h
  have : e ∈ defsOf ix m := List.mem_filter.mpr ⟨he, beq_iff_eq.mpr hn⟩
  exact ⟨_, List.head?_eq_some_head (List.ne_nil_of_mem this)⟩

theorem dfsStep_spec (ix : List Def) (s : Dfs) (hne : s.stack ≠ []) : Step ix s (dfsStep ix s) := by
  obtain ⟨_ | ⟨⟨cur, idx, path⟩, rest⟩, rs, vis, seen, cycles⟩ := s
  · exact absurd rfl hne
  have e : (if (idx == 0) = true then ((⟨rest, setInsert rs cur, vis, seen, cycles⟩ : Dfs), path ++ [cur])
      else (⟨rest, rs, vis, seen, cycles⟩, path)) = (⟨rest, rsIn rs cur idx, vis, seen, cycles⟩, pathIn path cur idx) := by
    cases idx <;> rfl
  unfold dfsStep
  simp only [e, Bool.not_eq_true', List.contains_eq_mem, decide_eq_false_iff_not, decide_eq_true_eq]
  -- the cascade of `if`s is taken one condition at a time (`split` on the whole is several times dearer to check)
  refine iteInduction (fun hlt => ?_) fun hlt => Step.pop (Nat.le_of_not_lt hlt)
  have hdep : (cyDeps ix cur)[idx]? = some (cyDeps ix cur)[idx]! := by
    rw [getElem!_pos _ idx hlt]; exact List.getElem?_eq_getElem hlt
  generalize (cyDeps ix cur)[idx]! = dep at hdep
  refine iteInduction (fun hin => ?_) fun hin =>
    iteInduction (fun hv => Step.push hdep hin hv) fun hv => Step.adv hdep (Noted.skip hin (Decidable.not_not.mp hv))
  refine iteInduction (fun hk => Step.adv hdep (Noted.dup hin hk)) fun hk => ?_
  obtain ⟨_, _, _, hname⟩ := mem_cyDeps.mp (List.mem_of_getElem? hdep)
  obtain ⟨d, hd⟩ := cyDef_some_of_mem hname
  rw [hd]
  exact Step.adv hdep (Noted.new d hin hk hd)

theorem dfsRun_succ (ix : List Def) (f : Nat) (s : Dfs) :
    dfsRun ix (f + 1) s = if s.stack.isEmpty then s else dfsRun ix f (dfsStep ix s) := rfl

theorem dfsRun_nil (ix : List Def) {s : Dfs} (h : s.stack = []) (f : Nat) : dfsRun ix f s = s := by
  cases f with
  | zero => rfl
  | succ f => rw [dfsRun_succ, h]; rfl

theorem dfsRun_cons (ix : List Def) {s : Dfs} (h : s.stack ≠ []) (f : Nat) :
    dfsRun ix (f + 1) s = dfsRun ix f (dfsStep ix s) := by
  rw [dfsRun_succ, if_neg (mt List.isEmpty_iff.mp h)]

theorem dfsRun_add (ix : List Def) (f g : Nat) : ∀ s, dfsRun ix (f + g) s = dfsRun ix g (dfsRun ix f s) := by
  induction f with
  | zero => intro s; rw [Nat.zero_add]; rfl
  | succ f ih =>
    intro s
    rw [Nat.add_right_comm]
    by_cases hne : s.stack = []
    · rw [dfsRun_nil ix hne, dfsRun_nil ix hne, dfsRun_nil ix hne]
    · rw [dfsRun_cons ix hne, dfsRun_cons ix hne]
      exact ih _

theorem dfsRun_induct (ix : List Def) (P : Dfs → Prop) (hstep : ∀ {s s'}, P s → Step ix s s' → P s') (fuel : Nat) :
    ∀ (s : Dfs), P s → P (dfsRun ix fuel s) := by
  induction fuel with
  | zero => exact fun _ h => h
  | succ f ih =>
    intro s h
    by_cases hne : s.stack = []
    · rwa [dfsRun_nil ix hne]
    · rw [dfsRun_cons ix hne]
      exact ih _ (hstep h (dfsStep_spec ix s hne))

end DfsT
end PLS
