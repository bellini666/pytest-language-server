/-
  PLS.Lemmas.History — what one `analyze_file` does to the index, component by component.

  Two record equations carry everything: `replay_eq` and `analyze_eq` (`analyze_none` when the text does not
  parse). A field not named on their right-hand sides is untouched; one given its own value there is written,
  and the equation does not say what.
-/
import PLS.Lemmas.Alist
namespace PLS
open Index

/-- the flags `record_fixture_definition` receives: they depend on the path and on state that no analysis changes -/
def stampDef (pfx : Path) (st : Index) (f : Path) (d : Def) : Def :=
  { d with thirdParty := inSitePackages pfx st f || st.editableThirdParty f,
           plugin := st.pluginFiles.contains f }

/-- the parts of the state `stampDef` reads -/
def sameEnv (a b : Index) : Prop :=
  a.pluginFiles = b.pluginFiles ∧ a.editable = b.editable ∧ a.workspaceRoot = b.workspaceRoot

theorem stampDef_env {pfx : Path} {a b : Index} (h : sameEnv a b) (f : Path) (d : Def) :
    stampDef pfx a f d = stampDef pfx b f d := by
  obtain ⟨h1, h2, h3⟩ := h
  unfold stampDef editableThirdParty inSitePackages
  rw [h1, h2, h3]

theorem sameEnv_trans {a b c : Index} (h1 : sameEnv a b) (h2 : sameEnv b c) : sameEnv a c :=
  ⟨h1.1.trans h2.1, h1.2.1.trans h2.2.1, h1.2.2.trans h2.2.2⟩

def eventDefs : List Event → List Def
  | [] => []
  | .defn d :: es => d :: eventDefs es
  | _ :: es => eventDefs es

def eventUsages : List Event → List Usage
  | [] => []
  | .usage u :: es => u :: eventUsages es
  | _ :: es => eventUsages es

theorem eventDefs_append (a b : List Event) : eventDefs (a ++ b) = eventDefs a ++ eventDefs b := by
  induction a with
  | nil => rfl
  | cons e es ih =>
    cases e with
    | defn d => exact congrArg (d :: ·) ih
    | _ => exact ih

theorem eventUsages_append (a b : List Event) : eventUsages (a ++ b) = eventUsages a ++ eventUsages b := by
  induction a with
  | nil => rfl
  | cons e es ih =>
    cases e with
    | usage u => exact congrArg (u :: ·) ih
    | _ => exact ih

theorem mem_eventDefs {d : Def} {es : List Event} : d ∈ eventDefs es ↔ Event.defn d ∈ es := by
  induction es with
  | nil => simp only [eventDefs, List.not_mem_nil]
  | cons e es ih => cases e <;> simp only [eventDefs, List.mem_cons, ih, Event.defn.injEq, reduceCtorEq, false_or]

theorem eventDefs_eq_nil {es : List Event} (h : ∀ d, Event.defn d ∉ es) : eventDefs es = [] :=
  List.eq_nil_iff_forall_not_mem.mpr fun d hd => h d (mem_eventDefs.mp hd)

theorem scan_eq (f : Path) (b : BodyScan) (refs : List NameRef) (st : Index) :
    refs.foldl (scanStep f b) st = { st with undeclared := (refs.foldl (scanStep f b) st).undeclared } := by
  induction refs generalizing st with
  | nil => rfl
  | cons r rs ih =>
    rw [List.foldl_cons, ih]
    fun_cases scanStep f b st r <;> rfl

theorem applyEvent_stamp (pfx f : Path) (st : Index) (e : Event) :
    stampDef pfx (applyEvent pfx f st e) f = stampDef pfx st f := by
  cases e with
  | scan b => simp only [applyEvent]; rw [scan_eq]; rfl
  | _ => rfl

theorem replay_eq (pfx f : Path) (es : List Event) (st : Index) :
    es.foldl (applyEvent pfx f) st =
      { st with defs := st.defs ++ (eventDefs es).map (stampDef pfx st f),
                version := st.version + (eventDefs es).length,
                ubf := st.ubf ++ eventUsages es,
                fileDefs := (eventDefs es).foldl (fun l d => addName l f d.name) st.fileDefs,
                usages := (es.foldl (applyEvent pfx f) st).usages,
                undeclared := (es.foldl (applyEvent pfx f) st).undeclared } := by
  induction es generalizing st with
  | nil => simp only [eventDefs, eventUsages, List.map_nil, List.append_nil, List.length_nil, Nat.add_zero, List.foldl_nil]
  | cons e es ih =>
    rw [List.foldl_cons, ih, applyEvent_stamp]
    cases e with
    | defn d =>
      simp only [applyEvent, eventDefs, eventUsages, List.map_cons, List.length_cons, List.foldl_cons,
        ← List.append_cons, Nat.add_assoc, Nat.add_comm 1]
      rfl
    | usage u => simp only [applyEvent, eventDefs, eventUsages, ← List.append_cons]
    | scan b => simp only [applyEvent]; rw [scan_eq]; rfl
    | panic => rfl

theorem analyze_none {pfx : Path} {cl : Bool} {st : Index} {f : Path} {v : Version} (h : v.parsed = none) :
    analyze pfx cl st f v =
      ({ st with cache := ainsert st.cache f (carry st f v), epoch := st.epoch + 1, version := st.version + 1 }, false) := by
  unfold analyze
  simp [h]

theorem analyze_some {pfx : Path} {cl : Bool} {st : Index} {f : Path} {v : Version} {fr : FileRec}
    (h : v.parsed = some fr) :
    (analyze pfx cl st f v).1 = fr.events.foldl (applyEvent pfx f) (preState cl st f v fr) := by
  unfold analyze
  simp [h]

theorem preState_eq (cl : Bool) (st : Index) (f : Path) (v : Version) (fr : FileRec) :
    preState cl st f v fr =
      { st with cache := ainsert st.cache f v,
                ubf := st.ubf.filter (fun u => u.file != f),
                usages := aerase st.usages f,
                undeclared := aerase st.undeclared f,
                modNames := ainsert (aerase st.modNames f) f fr.modNames,
                epoch := st.epoch + 1,
                version := st.version + 1,
                defs := (if cl then st.cleanupDefs f else st).defs,
                fileDefs := (if cl then st.cleanupDefs f else st).fileDefs } := by
  unfold preState
  cases cl
  · rfl
  · unfold cleanupDefs clearFile
    dsimp only [if_true]
    cases alookup st.fileDefs f <;> rfl

theorem analyze_eq {pfx : Path} {cl : Bool} {st : Index} {f : Path} {v : Version} {fr : FileRec}
    (h : v.parsed = some fr) :
    (analyze pfx cl st f v).1 =
      { st with cache := ainsert st.cache f v,
                modNames := ainsert (aerase st.modNames f) f fr.modNames,
                epoch := st.epoch + 1,
                version := st.version + 1 + (eventDefs fr.events).length,
                defs := (if cl then st.cleanupDefs f else st).defs ++ (eventDefs fr.events).map (stampDef pfx st f),
                ubf := st.ubf.filter (fun u => u.file != f) ++ eventUsages fr.events,
                fileDefs := (eventDefs fr.events).foldl (fun l d => addName l f d.name)
                  (if cl then st.cleanupDefs f else st).fileDefs,
                usages := (analyze pfx cl st f v).1.usages,
                undeclared := (analyze pfx cl st f v).1.undeclared } := by
  rw [analyze_some h, replay_eq, preState_eq]
  rfl

/-- `b` agrees with `a` on every component that no analysis writes -/
structure Index.Frame (a b : Index) : Prop where
  availCache : b.availCache = a.availCache
  cycleCache : b.cycleCache = a.cycleCache
  availEpoch : b.availEpoch = a.availEpoch
  cycleEpoch : b.cycleEpoch = a.cycleEpoch
  impCache : b.impCache = a.impCache
  pluginFiles : b.pluginFiles = a.pluginFiles
  disk : b.disk = a.disk
  dirs : b.dirs = a.dirs
  sitePackages : b.sitePackages = a.sitePackages
  editable : b.editable = a.editable
  workspaceRoot : b.workspaceRoot = a.workspaceRoot

theorem analyze_frame (pfx : Path) (cl : Bool) (st : Index) (f : Path) (v : Version) :
    Frame st (analyze pfx cl st f v).1 := by
  cases hv : v.parsed with
  | none => rw [analyze_none hv]; constructor <;> rfl
  | some fr => rw [analyze_eq hv]; constructor <;> rfl

theorem analyze_env (pfx : Path) (cl : Bool) (st : Index) (f : Path) (v : Version) :
    sameEnv (analyze pfx cl st f v).1 st :=
  have h := analyze_frame pfx cl st f v
  ⟨h.pluginFiles, h.editable, h.workspaceRoot⟩

/-- so the version-keyed memos never outlive an analysis -/
theorem analyze_version_lt (pfx : Path) (cl : Bool) (st : Index) (f : Path) (v : Version) :
    st.version < (analyze pfx cl st f v).1.version := by
  cases hv : v.parsed with
  | none => rw [analyze_none hv]; exact Nat.lt_succ_self _
  | some fr => rw [analyze_eq hv]; exact Nat.lt_of_lt_of_le (Nat.lt_succ_self _) (Nat.le_add_right _ _)

def DefsTracked (st : Index) : Prop :=
  ∀ d ∈ st.defs, ∃ names, alookup st.fileDefs d.file = some names ∧ d.name ∈ names

def EventsFor (f : Path) (es : List Event) : Prop := ∀ d ∈ eventDefs es, d.file = f

theorem addName_listed (l : List (Path × List String)) (f g : Path) (n m : String) :
    m ∈ (alookup (addName l f n) g).getD [] ↔ m ∈ (alookup l g).getD [] ∨ (g = f ∧ n = m) := by
  have h : (n ∈ (alookup l f).getD [] ∧ addName l f n = l) ∨
      addName l f n = ainsert l f ((alookup l f).getD [] ++ [n]) := by
    fun_cases addName l f n with
    | case1 ns hl hc => exact .inl ⟨hl ▸ List.contains_iff_mem.mp hc, rfl⟩  -- listed
    | case2 ns hl | case3 hl => exact .inr (hl ▸ rfl)  -- not listed / no entry
  rcases h with ⟨hn, h⟩ | h <;> rw [h]
  · exact ⟨.inl, fun h => h.elim id fun ⟨hg, hm⟩ => hg ▸ hm ▸ hn⟩
  · rw [alookup_ainsert]
    by_cases hg : g = f
    · rw [if_pos hg, hg, Option.getD_some, List.mem_append, List.mem_singleton, eq_comm (a := m), and_iff_right rfl]
    · rw [if_neg hg]; exact (or_iff_left fun h => hg h.1).symm

theorem addNames_listed (f g : Path) (m : String) (ds : List Def) (l : List (Path × List String)) :
    m ∈ (alookup (ds.foldl (fun l d => addName l f d.name) l) g).getD [] ↔
      m ∈ (alookup l g).getD [] ∨ (g = f ∧ ∃ d ∈ ds, d.name = m) := by
  induction ds generalizing l with
  | nil => simp only [List.foldl_nil, List.not_mem_nil, false_and, exists_false, and_false, or_false]
  | cons d ds ih =>
    rw [List.foldl_cons, ih, addName_listed]
    simp only [List.mem_cons, or_and_right, exists_or, exists_eq_left, or_assoc, and_or_left]

theorem cleanupDefs_listed (st : Index) (f g : Path) (m : String) :
    m ∈ (alookup (st.cleanupDefs f).fileDefs g).getD [] ↔ g ≠ f ∧ m ∈ (alookup st.fileDefs g).getD [] := by
  unfold cleanupDefs
  by_cases hg : g = f
  · subst hg
    cases hl : alookup st.fileDefs g <;> simp [hl, alookup_aerase]
  · cases alookup st.fileDefs f <;> simp [alookup_aerase, hg]

/-- under `DefsTracked`, removing the definitions whose names the reverse index lists for `f` removes exactly those of `f` -/
theorem cleanupDefs_defs (st : Index) (f : Path) (h : DefsTracked st) :
    (cleanupDefs st f).defs = st.defs.filter (fun d => d.file != f) := by
  fun_cases cleanupDefs st f with
  | case1 hl =>  -- no entry for `f`
    refine (List.filter_eq_self.mpr fun d hd => ?_).symm
    obtain ⟨ns, hn, _⟩ := h d hd
    exact bne_iff_ne.mpr fun e => by rw [e, hl] at hn; cases hn
  | case2 names hl =>  -- `names` listed for `f`
    refine List.filter_congr fun d hd => ?_
    obtain ⟨ns, hn, hm⟩ := h d hd
    by_cases hf : d.file = f
    · rw [hf, hl] at hn
      cases hn
      simp only [bne, beq_iff_eq.mpr hf, List.contains_iff_mem.mpr hm, Bool.and_self]
    · simp only [bne, beq_eq_false_iff_ne.mpr hf, Bool.false_and]

end PLS
