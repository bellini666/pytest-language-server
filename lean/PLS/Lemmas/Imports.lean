/-
  PLS.Lemmas.Imports — what the two import traversals (`Index.imported`, `Index.importScan`) share.

  Both walk a file's imports and then its `pytest_plugins` entries in the same way, so a file has ONE
  list of import edges (`FileRec.edges`) and each traversal is ONE fold over it
  (`ImpT.compute_eq` in `Props/C12I`, `importScanFile_eq`).
-/
import PLS.Model.Scan
import PLS.Lemmas.History
namespace PLS

/-- the form in which `importStep` extends `pluginFiles`, `news` and `rewalk` -/
theorem mem_pushNew {c : Bool} {l : List Path} {t x : Path} :
    x ∈ (if (c && !l.contains t) = true then l ++ [t] else l) ↔ x ∈ l ∨ (c = true ∧ x = t) := by
  split
  · rename_i h
    rw [List.mem_append, List.mem_singleton]
    exact or_congr_right ⟨fun e => ⟨(Bool.and_eq_true_iff.mp h).1, e⟩, fun e => e.2⟩
  · rename_i h
    refine ⟨Or.inl, fun h' => h'.elim id fun ⟨hc, e⟩ => ?_⟩
    rw [hc, Bool.true_and, Bool.not_eq_true', Bool.not_eq_false, List.contains_iff_mem] at h
    exact e ▸ h

theorem nodup_pushNew {c : Bool} {l : List Path} {t : Path} (h : l.Nodup) :
    (if (c && !l.contains t) = true then l ++ [t] else l).Nodup := by
  split
  · rename_i hc
    rw [Bool.and_eq_true_iff, Bool.not_eq_true', List.contains_eq_mem, decide_eq_false_iff_not] at hc
    exact (List.nodup_cons.mpr ⟨hc.2, h⟩).perm (List.perm_append_singleton t l).symm
  · exact h

/-- a `pytest_plugins` entry acts as a star import of the module it names -/
def FileRec.edges (fr : FileRec) : List ImportRec :=
  fr.imports ++ fr.plugins.map (fun m => ⟨m, true, [], []⟩)

theorem FileRec.mem_edges {fr : FileRec} {e : ImportRec} :
    e ∈ fr.edges ↔ e ∈ fr.imports ∨ ∃ m ∈ fr.plugins, e = ⟨m, true, [], []⟩ := by
  simp only [FileRec.edges, List.mem_append, List.mem_map, eq_comm]

theorem FileRec.filterMap_edges {β} (fr : FileRec) (g : String → Option β) :
    fr.edges.filterMap (fun e => g e.modulePath) =
      fr.imports.filterMap (fun imp => g imp.modulePath) ++ fr.plugins.filterMap g := by
  simp only [FileRec.edges, List.filterMap_append, List.filterMap_map]
  rfl

/-- the edges `imported` walks: of the version's own record, or of a carried one -/
def Version.edges (v : Version) : List ImportRec :=
  match v.effRec with
  | some fr => fr.edges
  | none => []

namespace Index

theorem findModuleFile_single (st : Index) (last : String) (base : Path) : findModuleFile st [last] base =
    if (ahas st.disk (base ++ [last ++ ".py"]) || ahas st.cache (base ++ [last ++ ".py"])) = true
    then some (base ++ [last ++ ".py"])
    else if (ahas st.disk (base ++ [last, "__init__.py"]) || ahas st.cache (base ++ [last, "__init__.py"])) = true
    then some (base ++ [last, "__init__.py"]) else none := by rfl

theorem findModuleFile_cons (st : Index) (p : String) {ps : List String} (base : Path) (h : ps ≠ []) :
    findModuleFile st (p :: ps) base =
      if st.isDir (base ++ [p]) = true then findModuleFile st ps (base ++ [p]) else none := by
  cases ps with
  | nil => exact absurd rfl h
  | cons q qs => rfl

theorem resolveAbsolute_some {st : Index} {parts : List String} {start t : Path}
    (h : resolveAbsolute st parts start = some t) : ∃ base, findModuleFile st parts base = some t := by
  unfold resolveAbsolute at h
  rw [Option.orElse_eq_or, Option.orElse_eq_or] at h
  rcases Option.or_eq_some_iff.mp h with h | ⟨_, h⟩
  · exact (List.exists_of_findSome?_eq_some h).imp fun _ => And.right
  · rcases Option.or_eq_some_iff.mp h with h | ⟨_, h⟩
    · exact (List.exists_of_findSome?_eq_some h).imp fun _ => And.right
    · obtain ⟨e, _, he⟩ := List.exists_of_findSome?_eq_some h
      exact ⟨e.1, he⟩

theorem resolveRelative_some {st : Index} {modp : Chars} {base t : Path}
    (h : resolveRelative st modp base = some t) :
    (∃ parts cur, findModuleFile st parts cur = some t) ∨ ahas st.disk t = true := by
  revert h
  fun_cases resolveRelative st modp base with
  | case1 | case3 => nofun  -- too many dots; bare, no `__init__.py`
  | case2 => exact fun h => Or.inr (Option.some.inj h ▸ ‹ahas st.disk _ = true›)  -- bare (`from . import x`): `__init__.py` on disk
  | case4 => exact fun h => Or.inl ⟨_, _, h⟩  -- a dotted path below `cur`

theorem resolveModule_some {st : Index} {m : String} {f t : Path} (h : st.resolveModule m f = some t) :
    (∃ parts cur, findModuleFile st parts cur = some t) ∨ ahas st.disk t = true := by
  revert h
  fun_cases resolveModule st m f with
  | case1 => exact resolveRelative_some  -- a leading dot
  | case2 => exact fun h => Or.inl ⟨_, resolveAbsolute_some h⟩

end Index

namespace ScanT
open Index

theorem findModuleFile_exists {st : Index} {parts : List String} {base t : Path}
    (h : findModuleFile st parts base = some t) : ahas st.disk t = true ∨ ahas st.cache t = true := by
  revert h
  fun_induction findModuleFile st parts base with
  | case1 | case4 | case6 => nofun  -- no part; neither file of the last part; not a directory
  | case2 => exact fun h => Option.some.inj h ▸ Bool.or_eq_true_iff.mp ‹_ = true›  -- `last.py`
  | case3 => exact fun h => Option.some.inj h ▸ Bool.or_eq_true_iff.mp ‹_ = true›  -- `last/__init__.py`
  | case5 => assumption  -- a directory: one level down

theorem resolveModule_exists {st : Index} {m : String} {f t : Path} (h : st.resolveModule m f = some t) :
    ahas st.disk t = true ∨ ahas st.cache t = true :=
  (resolveModule_some h).elim (fun ⟨_, _, hf⟩ => findModuleFile_exists hf) Or.inl

end ScanT

namespace ScanC
open Index

/-- `b` shows the same files and directories as `a` (contents aside): all module resolution sees -/
structure SameFS (a b : Index) : Prop where
  disk : b.disk = a.disk
  dirs : b.dirs = a.dirs
  sp : b.sitePackages = a.sitePackages
  ed : b.editable = a.editable
  ex : ∀ x, (ahas b.disk x || ahas b.cache x) = (ahas a.disk x || ahas a.cache x)

theorem ex_ainsert {d c : List (Path × Version)} {k : Path} (v : Version) (hk : (ahas d k || ahas c k) = true)
    (x : Path) : (ahas d x || ahas (ainsert c k v) x) = (ahas d x || ahas c x) := by
  rw [ahas_ainsert_eq]
  by_cases hx : x = k
  · rw [hx, beq_iff_eq.mpr rfl, Bool.true_or, Bool.or_true, hk]
  · rw [beq_eq_false_iff_ne.mpr hx, Bool.false_or]

theorem findModuleFile_same {a b : Index} (h : SameFS a b) : findModuleFile b = findModuleFile a := by
  funext parts
  induction parts with
  | nil => rfl
  | cons p ps ih =>
    funext base
    by_cases hps : ps = []
    · rw [hps, findModuleFile_single, findModuleFile_single, h.ex, h.ex]
    · rw [findModuleFile_cons b p base hps, findModuleFile_cons a p base hps, ih, isDir, isDir, h.dirs]

theorem resolveModule_same {a b : Index} (h : SameFS a b) : b.resolveModule = a.resolveModule := by
  funext m f
  unfold resolveModule resolveRelative resolveAbsolute
  simp only [findModuleFile_same h, h.disk, h.sp, h.ed]

end ScanC

namespace Index

theorem importStep_st_eq (mark : Bool) (acc : ScanAcc) (t : Path) :
    (importStep mark acc t).st = { acc.st with pluginFiles := (importStep mark acc t).st.pluginFiles } := by
  unfold importStep
  cases (mark && !acc.st.pluginFiles.contains t) <;> rfl

theorem importStep_pluginFiles (mark : Bool) (acc : ScanAcc) (t : Path) : (importStep mark acc t).st.pluginFiles =
    if (mark && !acc.st.pluginFiles.contains t) = true then acc.st.pluginFiles ++ [t] else acc.st.pluginFiles := by
  unfold importStep
  exact apply_ite Index.pluginFiles _ _ _

theorem importStep_processed (mark : Bool) (acc : ScanAcc) (t : Path) : (importStep mark acc t).processed =
    if (mark && !acc.st.pluginFiles.contains t && acc.processed.contains t) = true
    then acc.processed.filter (fun g => g != t) else acc.processed := by rfl

theorem mem_pluginFiles_importStep {mark : Bool} {acc : ScanAcc} {t g : Path} :
    g ∈ (importStep mark acc t).st.pluginFiles ↔ g ∈ acc.st.pluginFiles ∨ (mark = true ∧ g = t) := by
  rw [importStep_pluginFiles]; exact mem_pushNew

theorem mem_processed_importStep {mark : Bool} {acc : ScanAcc} {t g : Path} :
    g ∈ (importStep mark acc t).processed ↔
      g ∈ acc.processed ∧ ¬(mark = true ∧ t ∉ acc.st.pluginFiles ∧ g = t) := by
  rw [importStep_processed]
  split <;> rename_i h
  all_goals simp only [Bool.and_eq_true, Bool.not_eq_true', List.contains_eq_mem, decide_eq_false_iff_not,
    decide_eq_true_eq] at h
  · obtain ⟨⟨hm, ht⟩, _⟩ := h
    rw [List.mem_filter, bne_iff_ne]
    exact and_congr_right fun _ => ⟨fun hne hh => hne hh.2.2, fun hn e => hn ⟨hm, ht, e⟩⟩
  · exact ⟨fun hg => ⟨hg, fun ⟨hm, ht, e⟩ => h ⟨⟨hm, ht⟩, e ▸ hg⟩⟩, And.left⟩

theorem mem_news_importStep {mark : Bool} {acc : ScanAcc} {t g : Path} :
    g ∈ (importStep mark acc t).news ↔ g ∈ acc.news ∨
      ((!(importStep mark acc t).processed.contains t && !ahas acc.st.cache t) = true ∧ g = t) :=
  mem_pushNew

theorem mem_rewalk_importStep {mark : Bool} {acc : ScanAcc} {t g : Path} :
    g ∈ (importStep mark acc t).rewalk ↔ g ∈ acc.rewalk ∨
      (((mark && !acc.st.pluginFiles.contains t && acc.processed.contains t) ||
        (!(importStep mark acc t).processed.contains t && ahas acc.st.cache t)) = true ∧ g = t) :=
  mem_pushNew

theorem importStep_queued (mark : Bool) (acc : ScanAcc) (t : Path) :
    t ∈ (importStep mark acc t).processed ∨ t ∈ (importStep mark acc t).rewalk ∨ t ∈ (importStep mark acc t).news := by
  cases hp : (importStep mark acc t).processed.contains t
  · cases hc : ahas acc.st.cache t
    · exact Or.inr (Or.inr (mem_news_importStep.mpr (Or.inr ⟨by rw [hp, hc]; rfl, rfl⟩)))
    · exact Or.inr (Or.inl (mem_rewalk_importStep.mpr (Or.inr ⟨by rw [hp, hc, Bool.or_eq_true]; exact Or.inr rfl, rfl⟩)))
  · exact Or.inl (List.contains_iff_mem.mp hp)

/-- the edges the scan walks for `f`: of what its text parses to, never of a carried record -/
def scanEdges (st : Index) (f : Path) : List ImportRec :=
  match (st.content f).bind (·.parsed) with
  | some fr => fr.edges
  | none => []

theorem importScanFile_eq (f : Path) (acc : ScanAcc) : importScanFile f acc =
    (acc.st.scanEdges f).foldl (fun b e =>
      match b.st.resolveModule e.modulePath f with
      | some t => importStep (acc.st.pluginFiles.contains f && e.isStar) b t
      | none => b) acc := by
  unfold importScanFile scanEdges
  cases acc.st.content f with
  | none => rfl
  | some v =>
    obtain ⟨_, _ | fr, _⟩ := v
    · rfl
    · simp only [Option.bind_some, FileRec.edges, List.foldl_append, List.foldl_map, Bool.and_true]
      rfl

theorem importScanFile_ind {P : ScanAcc → Prop} {f : Path} {acc : ScanAcc} (h0 : P acc)
    (hstep : ∀ {b} {e : ImportRec} {t}, P b → b.st.resolveModule e.modulePath f = some t →
      P (importStep (acc.st.pluginFiles.contains f && e.isStar) b t)) : P (importScanFile f acc) := by
  rw [importScanFile_eq]
  refine List.foldlRecOn _ _ h0 fun b hb e _ => ?_
  split
  · exact hstep hb ‹_›
  · exact hb

theorem roundStep_done {acc : ScanAcc} {f : Path} (h : f ∈ acc.processed) : roundStep acc f = acc :=
  if_pos (List.contains_iff_mem.mpr h)

theorem roundStep_walk {acc : ScanAcc} {f : Path} (h : f ∉ acc.processed) :
    roundStep acc f = importScanFile f { acc with processed := acc.processed ++ [f] } :=
  if_neg fun hc => h (List.contains_iff_mem.mp hc)

theorem round_ind {P : ScanAcc → Prop} {toCheck : List Path} {acc : ScanAcc} (h0 : P acc)
    (hpush : ∀ {b f}, P b → P { b with processed := b.processed ++ [f] })
    (hstep : ∀ {b mark t m f}, P b → b.st.resolveModule m f = some t → P (importStep mark b t)) :
    P (toCheck.foldl roundStep acc) := by
  refine List.foldlRecOn _ _ h0 fun b hb f _ => ?_
  by_cases hf : f ∈ b.processed
  · rw [roundStep_done hf]; exact hb
  · rw [roundStep_walk hf]
    exact importScanFile_ind (hpush hb) fun hc hr => hstep hc hr

end Index
end PLS
