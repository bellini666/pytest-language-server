/-
  PLS.Lemmas.List — facts about core `List` functions that core does not state.
-/
namespace PLS

theorem find?_true {α} (l : List α) : l.find? (fun _ => true) = l.head? := by cases l <;> rfl

theorem find?_eq_some_of_unique {α} {l : List α} {p : α → Bool} {a : α} (ha : a ∈ l) (hp : p a = true)
    (hu : ∀ b ∈ l, p b = true → b = a) : l.find? p = some a := by
  cases h : l.find? p with
  | none => exact absurd hp (List.find?_eq_none.mp h a ha)
  | some b => rw [hu b (List.mem_of_find?_eq_some h) (List.find?_some h)]

theorem find?_perm_unique {α} {l l' : List α} {p : α → Bool} (hp : l.Perm l')
    (hu : ∀ a ∈ l, ∀ b ∈ l, p a = true → p b = true → a = b) : l.find? p = l'.find? p := by
  cases h : l.find? p with
  | none =>
    exact (List.find?_eq_none.mpr fun x hx => List.find?_eq_none.mp h x (hp.mem_iff.mpr hx)).symm
  | some a =>
    have ha := List.mem_of_find?_eq_some h
    have hpa := List.find?_some h
    exact (find?_eq_some_of_unique (hp.mem_iff.mp ha) hpa
      fun b hb hpb => hu b (hp.mem_iff.mpr hb) a ha hpb hpa).symm

theorem find?_filter_and {α} (l : List α) (p q : α → Bool) :
    (l.filter q).find? p = l.find? (fun a => p a && q a) := by
  rw [List.find?_filter]
  simp only [Bool.decide_and, Bool.decide_eq_true, Bool.and_comm]

theorem findSome?_congr {α β} {l : List α} {f g : α → Option β} (h : ∀ x ∈ l, f x = g x) :
    l.findSome? f = l.findSome? g := by
  induction l with
  | nil => rfl
  | cons x xs ih =>
    rw [List.findSome?_cons, List.findSome?_cons, h x (.head _), ih fun y hy => h y (.tail _ hy)]

theorem filter_beq_filter_bne {α β : Type _} [BEq β] [LawfulBEq β] (f : α → β) (a b : β) (l : List α) :
    (l.filter (fun x => f x != a)).filter (fun x => f x == b) =
      if b == a then [] else l.filter (fun x => f x == b) := by
  rw [List.filter_filter]
  split
  · rename_i h; rw [eq_of_beq h]; exact List.filter_eq_nil_iff.mpr fun x _ => by simp
  · rename_i h
    refine List.filter_congr fun x _ => ?_
    cases hx : f x == b
    · rfl
    · rw [eq_of_beq hx, Bool.true_and, bne, Bool.eq_false_iff.mpr h]; rfl

theorem filter_beq_of_forall {α β : Type _} [BEq β] [LawfulBEq β] {f : α → β} {a : β} {l : List α}
    (h : ∀ x ∈ l, f x = a) (b : β) : l.filter (fun x => f x == b) = if b == a then l else [] := by
  split
  · rename_i hb
    exact List.filter_eq_self.mpr fun x hx => by rw [h x hx, eq_of_beq hb]; exact beq_self_eq_true a
  · rename_i hb
    exact List.filter_eq_nil_iff.mpr fun x hx => by rw [h x hx, BEq.comm]; exact hb

theorem filterMap_ite_none {α β} (p : α → Bool) (g : α → β) (l : List α) :
    l.filterMap (fun a => if p a = true then none else some (g a)) = (l.filter (fun a => !p a)).map g := by
  induction l with
  | nil => rfl
  | cons a l ih =>
    rw [List.filterMap_cons, List.filter_cons]
    cases p a
    · exact congrArg (g a :: ·) ih
    · exact ih

theorem idx_unique {α β} {f : α → β} {l : List α} (hnd : (l.map f).Nodup) {i j : Nat} {a b : α}
    (hi : l[i]? = some a) (hj : l[j]? = some b) (hf : f b = f a) : j = i := by
  have at_ : ∀ {n c}, l[n]? = some c → (l.map f)[n]? = some (f c) := fun h => by rw [List.getElem?_map, h]; rfl
  refine (List.getElem?_inj ?_ hnd).mp ((at_ hj).trans (hf ▸ (at_ hi).symm))
  rw [List.length_map]; exact (List.getElem?_eq_some_iff.mp hj).1

theorem foldl_keeps {σ ε α} (π : σ → α) {step : σ → ε → σ} (h : ∀ s e, π (step s e) = π s) (es : List ε) (s : σ) :
    π (es.foldl step s) = π s := by
  induction es generalizing s with
  | nil => rfl
  | cons e es ih => exact (ih _).trans (h s e)

/-- the third conjunct of the conclusion is there for the induction, which has to carry the head's `D` through
    the fold over the tail -/
theorem foldl_settles {α β} {g : β → α → β} {P : β → Prop} {D : α → β → Prop} :
    ∀ (l : List α) (b : β), P b →
      (∀ b a, a ∈ l → P b → P (g b a) ∧ D a (g b a) ∧ ∀ x, D x b → D x (g b a)) →
      P (l.foldl g b) ∧ (∀ a ∈ l, D a (l.foldl g b)) ∧ ∀ x, D x b → D x (l.foldl g b) := by
  intro l
  induction l with
  | nil => exact fun b hb _ => ⟨hb, fun _ h => (nomatch h), fun _ h => h⟩
  | cons a l ih =>
    intro b hb hstep
    obtain ⟨p1, d1, k1⟩ := hstep b a List.mem_cons_self hb
    obtain ⟨p2, d2, k2⟩ := ih (g b a) p1 fun b x hx => hstep b x (List.mem_cons_of_mem _ hx)
    refine ⟨p2, fun x hx => ?_, fun x hd => k2 x (k1 x hd)⟩
    rcases List.mem_cons.mp hx with rfl | hx
    · exact k2 _ d1
    · exact d2 x hx

theorem foldl_congr_inv {α β} (P : β → Prop) {g1 g2 : β → α → β} {l : List α} {b : β} (hb : P b)
    (heq : ∀ b a, P b → g1 b a = g2 b a) (hstep : ∀ b a, P b → P (g2 b a)) :
    l.foldl g1 b = l.foldl g2 b := by
  induction l generalizing b with
  | nil => rfl
  | cons a l ih =>
    simp only [List.foldl_cons]
    rw [heq b a hb]
    exact ih (hstep b a hb)

theorem filter_len_mono {α} (U : List α) (p q : α → Bool) (h : ∀ a ∈ U, q a = true → p a = true) :
    (U.filter q).length ≤ (U.filter p).length := by
  simpa only [List.countP_eq_length_filter] using List.countP_mono_left h

theorem filter_len_strict {α} (U : List α) (p q : α → Bool) (h : ∀ a ∈ U, q a = true → p a = true)
    (x : α) (hx : x ∈ U) (hpx : p x = true) (hqx : q x = false) :
    (U.filter q).length < (U.filter p).length := by
  obtain ⟨l1, l2, rfl⟩ := List.append_of_mem hx
  have h1 := filter_len_mono l1 p q fun a ha => h a (List.mem_append_left _ ha)
  have h2 := filter_len_mono l2 p q fun a ha => h a (List.mem_append_right _ (List.mem_cons_of_mem _ ha))
  simp only [List.filter_append, List.filter_cons, hpx, hqx, if_true, Bool.false_eq_true, if_false,
    List.length_append, List.length_cons]
  exact Nat.add_lt_add_of_le_of_lt h1 (Nat.lt_succ_of_le h2)

theorem sum_le {α} (U : List α) (f g : α → Nat) (hle : ∀ a ∈ U, f a ≤ g a) : (U.map f).sum ≤ (U.map g).sum := by
  induction U with
  | nil => exact Nat.le_refl _
  | cons a U ih =>
    rw [List.map_cons, List.map_cons, List.sum_cons, List.sum_cons]
    exact Nat.add_le_add (hle a List.mem_cons_self) (ih fun b hb => hle b (List.mem_cons_of_mem _ hb))

theorem sum_lt {α} (U : List α) (f g : α → Nat) (hle : ∀ a ∈ U, f a ≤ g a) (x : α) (hx : x ∈ U) (hlt : f x < g x) :
    (U.map f).sum < (U.map g).sum := by
  induction U with
  | nil => cases hx
  | cons a U ih =>
    rw [List.map_cons, List.map_cons, List.sum_cons, List.sum_cons]
    have hU := fun b hb => hle b (List.mem_cons_of_mem _ hb)
    rcases List.mem_cons.mp hx with rfl | hx
    · exact Nat.add_lt_add_of_lt_of_le hlt (sum_le U f g hU)
    · exact Nat.add_lt_add_of_le_of_lt (hle a List.mem_cons_self) (ih hU hx)

theorem le_sum_of_mem {α} (U : List α) (g : α → Nat) (x : α) (hx : x ∈ U) : g x ≤ (U.map g).sum := by
  induction U with
  | nil => cases hx
  | cons a U ih =>
    rw [List.map_cons, List.sum_cons]
    rcases List.mem_cons.mp hx with rfl | hx
    · exact Nat.le_add_right _ _
    · exact Nat.le_trans (ih hx) (Nat.le_add_left _ _)

/-! `ins` is any function with the two equations of insertion before the first `y` with `c x y`, so the model's
sorts (`insertByName`, `Index.insertPN`, `insertS`) are all instances. -/

theorem perm_insert {α} {ins : α → List α → List α} {c : α → α → Bool} (h0 : ∀ x, ins x [] = [x])
    (h1 : ∀ x y ys, ins x (y :: ys) = if c x y then x :: y :: ys else y :: ins x ys) (x : α) (l : List α) :
    (ins x l).Perm (x :: l) := by
  induction l with
  | nil => rw [h0]
  | cons y ys ih =>
    rw [h1]
    split
    · exact .refl _
    · exact (ih.cons y).trans (.swap x y ys)

theorem perm_foldr_insert {α} {ins : α → List α → List α} (h : ∀ x l, (ins x l).Perm (x :: l))
    (l : List α) : (l.foldr ins []).Perm l := by
  induction l with
  | nil => exact .refl _
  | cons x xs ih => exact (h x _).trans (ih.cons x)

end PLS
