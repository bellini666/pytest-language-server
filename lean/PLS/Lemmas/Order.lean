/-
  PLS.Lemmas.Order — membership of resolver answers, and independence of the registration order
  under uniqueness hypotheses.
-/
import PLS.Lemmas.Resolve
namespace PLS

theorem resolve_mem {ix : List Def} {imp : Path → String → Bool} {f : Path} {n : String} {d : Def}
    (h : resolve ix imp f n = some d) : d ∈ ix ∧ d.name = n := by
  apply mem_defsOf.mp
  rcases resolve_cases ix imp f n _ h with
    ⟨_, hr, hd⟩ | ⟨_, ⟨_, hr, hw⟩ | ⟨_, ⟨_, hr, hp⟩ | ⟨_, hr⟩⟩⟩
  · -- the file itself
    cases hr; exact (List.mem_filter.mp (maxByLine_some hd).1).1
  · -- the conftest walk
    cases hr
    obtain ⟨_, _, _, _, hl, _⟩ := walkUp_some.mp hw
    exact (level_some hl).1
  · -- a workspace plugin
    cases hr; exact List.mem_of_find?_eq_some hp
  · -- third party
    exact List.mem_of_find?_eq_some hr.symm

theorem resolve_last_in_file {ix : List Def} {imp : Path → String → Bool} {f : Path} {n : String}
    {d : Def} (h : resolve ix imp f n = some d) (hf : d.file = f) :
    ∀ e ∈ ix, e.name = n → e.file = f → e.line ≤ d.line := by
  rcases resolve_cases ix imp f n _ h with ⟨_, hr, hd⟩ | ⟨hsame, _⟩
  · cases hr
    exact fun e he hen hef => (maxByLine_some hd).2 e
      (List.mem_filter.mpr ⟨mem_defsOf.mpr ⟨he, hen⟩, beq_iff_eq.mpr hef⟩)
  · exact absurd hf (maxByLine_sameFile_eq_none.mp hsame d (mem_defsOf.mpr (resolve_mem h)))

theorem resolveF_mem {ix : List Def} {imp : Path → String → Bool} {f : Path} {n : String}
    {filt : Def → Bool} {d : Def} (h : resolveF ix imp f n filt = some d) :
    d ∈ ix ∧ d.name = n ∧ filt d = true := by
  rw [resolveF_filter] at h
  obtain ⟨hm, hn⟩ := resolve_mem h
  obtain ⟨hix, hf⟩ := List.mem_filter.mp hm
  exact ⟨hix, hn, hf⟩

theorem resolveUsage_mem {ix : List Def} {imp : Path → String → Bool} {u : Usage} {d : Def}
    (h : resolveUsage ix imp u = some d) : d ∈ ix ∧ d.name = u.name := by
  unfold resolveUsage at h
  split at h
  · obtain ⟨hm, hn, _⟩ := resolveF_mem h
    exact ⟨hm, hn⟩
  · exact resolve_mem h

/-- **uniqueness hypothesis** for name `n`.  `imported`: the import branch of the walk answers
    "the first definition anywhere", so a name some conftest imports must have a single one. -/
structure Uniq (ix : List Def) (imp : Path → String → Bool) (n : String) : Prop where
  perFile : ∀ a ∈ ix, ∀ b ∈ ix, a.name = n → b.name = n → a.file = b.file → a = b
  plugin : ∀ a ∈ ix, ∀ b ∈ ix, a.name = n → b.name = n →
    (a.plugin && !a.thirdParty) = true → (b.plugin && !b.thirdParty) = true → a = b
  third : ∀ a ∈ ix, ∀ b ∈ ix, a.name = n → b.name = n → a.thirdParty = true → b.thirdParty = true → a = b
  imported : (∃ c, imp c n = true) → ∀ a ∈ ix, ∀ b ∈ ix, a.name = n → b.name = n → a = b

theorem forall_defsOf₂ {ix : List Def} {n : String} {P : Def → Def → Prop}
    (h : ∀ a ∈ ix, ∀ b ∈ ix, a.name = n → b.name = n → P a b) :
    ∀ a ∈ defsOf ix n, ∀ b ∈ defsOf ix n, P a b := fun a ha b hb =>
  have ⟨ha, na⟩ := mem_defsOf.mp ha
  have ⟨hb, nb⟩ := mem_defsOf.mp hb
  h a ha b hb na nb

theorem walkUp_perm {ds ds' : List Def} (hp : ds.Perm ds') (imp : Path → Bool) (dirs : List Path)
    (hfile : ∀ a ∈ ds, ∀ b ∈ ds, a.file = b.file → a = b)
    (himp : (∃ c, imp c = true) → ∀ a ∈ ds, ∀ b ∈ ds, a = b) :
    walkUp ds (fun _ => true) imp dirs = walkUp ds' (fun _ => true) imp dirs := by
  rw [walkUp_eq, walkUp_eq]
  refine findSome?_congr fun dir _ => ?_
  unfold level
  rw [find?_perm_unique hp fun a ha b hb pa pb => by
    simp only [Bool.and_true, beq_iff_eq] at pa pb
    exact hfile a ha b hb (pa.trans pb.symm)]
  split
  · next hi => rw [find?_perm_unique hp fun a ha b hb _ _ => himp ⟨_, hi⟩ a ha b hb]
  · rfl

theorem resolve_perm {ix ix' : List Def} (hp : ix.Perm ix') (imp : Path → String → Bool) (f : Path)
    (n : String) (hu : Uniq ix imp n) : resolve ix imp f n = resolve ix' imp f n := by
  have hd : (defsOf ix n).Perm (defsOf ix' n) := hp.filter _
  have hfile := forall_defsOf₂ hu.perFile
  unfold resolve resolveF
  simp only [Bool.and_true]
  rw [maxByLine_perm (hd.filter _) fun a ha b hb _ => by
      simp only [List.mem_filter, beq_iff_eq] at ha hb
      exact hfile a ha.1 b hb.1 (ha.2.trans hb.2.symm),
    walkUp_perm hd _ _ hfile fun hex => forall_defsOf₂ (hu.imported hex),
    find?_perm_unique hd (forall_defsOf₂ hu.plugin),
    find?_perm_unique hd (forall_defsOf₂ hu.third)]

end PLS
