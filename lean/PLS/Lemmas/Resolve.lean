/-
  PLS.Lemmas.Resolve — the resolver cascade (`Model/Resolve.lean`) stage by stage.
-/
import PLS.Model.Resolve
import PLS.Lemmas.List
namespace PLS

theorem maxByLine_eq_none {ds : List Def} : maxByLine ds = none ↔ ds = [] := by
  fun_cases maxByLine ds <;> simp

theorem maxByLine_sameFile_eq_none {ds : List Def} {f : Path} :
    maxByLine (ds.filter (fun d => d.file == f)) = none ↔ ∀ e ∈ ds, e.file ≠ f := by
  simp only [maxByLine_eq_none, List.filter_eq_nil_iff, beq_iff_eq, ne_eq]

theorem maxByLine_some {ds : List Def} {d : Def} (h : maxByLine ds = some d) :
    d ∈ ds ∧ ∀ e ∈ ds, e.line ≤ d.line := by
  fun_induction maxByLine ds generalizing d with
  | case1 => cases h
  | case2 x xs hn => -- nothing behind `x`
    cases h
    rw [maxByLine_eq_none.mp hn]
    exact ⟨.head _, List.forall_mem_singleton.mpr (Nat.le_refl _)⟩
  | case3 x xs m hm hlt ih => -- `x` beats the rest's answer `m`
    cases h
    exact ⟨.head _, List.forall_mem_cons.mpr
      ⟨Nat.le_refl _, fun e he => Nat.le_trans ((ih hm).2 e he) (Nat.le_of_lt hlt)⟩⟩
  | case4 x xs m hm hlt ih => -- `m` stays
    cases h
    exact ⟨.tail _ (ih hm).1, List.forall_mem_cons.mpr ⟨Nat.not_lt.mp hlt, (ih hm).2⟩⟩

theorem maxByLine_perm {l l' : List Def} (hp : l.Perm l')
    (hu : ∀ a ∈ l, ∀ b ∈ l, a.line = b.line → a = b) : maxByLine l = maxByLine l' := by
  cases h : maxByLine l with
  | none => rw [maxByLine_eq_none.mp h] at hp; rw [← hp.nil_eq]; rfl
  | some d =>
    cases h' : maxByLine l' with
    | none => rw [maxByLine_eq_none.mp h'] at hp; rw [hp.eq_nil] at h; cases h
    | some d' =>
      obtain ⟨m, g⟩ := maxByLine_some h
      obtain ⟨m', g'⟩ := maxByLine_some h'
      have m'l := hp.mem_iff.mpr m'
      rw [hu d m d' m'l (Nat.le_antisymm (g' d (hp.mem_iff.mp m)) (g d' m'l))]

theorem maxByLine_filter_eq (ds : List Def) (p q : Def → Bool) :
    maxByLine ((ds.filter q).filter p) = maxByLine (ds.filter (fun d => p d && q d)) := by
  rw [List.filter_filter]

theorem mem_defsOf {ix : List Def} {n : String} {e : Def} :
    e ∈ defsOf ix n ↔ e ∈ ix ∧ e.name = n := by
  simp [defsOf, List.mem_filter]

theorem defsOf_filter (ix : List Def) (filt : Def → Bool) (n : String) :
    defsOf (ix.filter filt) n = (defsOf ix n).filter filt := by
  simp [defsOf, List.filter_filter, Bool.and_comm]

theorem mem_ancestors {p dir : Path} : dir ∈ ancestorsOfDir p ↔ dir <+: p := by
  unfold ancestorsOfDir
  simp only [List.mem_map, List.mem_reverse, List.mem_range]
  constructor
  · rintro ⟨k, _, rfl⟩; exact List.take_prefix k p
  · intro h
    exact ⟨dir.length, Nat.lt_succ_of_le h.length_le, (List.prefix_iff_eq_take.mp h).symm⟩

theorem ancestors_pairwise (p : Path) :
    (ancestorsOfDir p).Pairwise (fun a b => b.length < a.length) := by
  unfold ancestorsOfDir
  rw [List.pairwise_map, List.pairwise_reverse]
  refine List.Pairwise.imp_of_mem ?_ List.pairwise_lt_range
  intro a b ha hb hab
  rw [List.length_take_of_le (Nat.le_of_lt_succ (List.mem_range.mp ha)),
    List.length_take_of_le (Nat.le_of_lt_succ (List.mem_range.mp hb))]
  exact hab

theorem ancestors_nodup (p : Path) : (ancestorsOfDir p).Nodup :=
  (ancestors_pairwise p).imp fun h hab => by subst hab; omega

theorem conftestOf_length (d : Path) : (conftestOf d).length = d.length + 1 := by
  simp [conftestOf]

theorem conftestOf_inj {a b : Path} (h : conftestOf a = conftestOf b) : a = b := by
  simpa [conftestOf] using h

/-- the test `usageAt` applies -/
theorem covers_iff {u : Usage} {line col : Nat} {w : String} :
    (u.line == line && u.name == w && decide (u.startChar ≤ col) && decide (col < u.endChar)) = true ↔
      u.line = line ∧ u.name = w ∧ u.startChar ≤ col ∧ col < u.endChar := by
  simp only [Bool.and_eq_true, beq_iff_eq, decide_eq_true_eq, and_assoc]

/-- the test `ownDefAt` applies -/
theorem spans_iff {d : Def} {f : Path} {line : Nat} :
    (d.file == f && decide (d.line ≤ line) && decide (line ≤ d.endLine)) = true ↔
      d.file = f ∧ d.line ≤ line ∧ line ≤ d.endLine := by
  simp only [Bool.and_eq_true, beq_iff_eq, decide_eq_true_eq, and_assoc]

theorem ownDefAt_some {ix : List Def} {f : Path} {line : Nat} {n : String} {d : Def}
    (h : ownDefAt ix f line n = some d) :
    (d ∈ ix ∧ d.name = n) ∧ d.file = f ∧ d.line ≤ line ∧ line ≤ d.endLine :=
  have hs := List.find?_some h
  ⟨mem_defsOf.mp (List.mem_of_find?_eq_some h), spans_iff.mp hs⟩

theorem ownDefAt_of_mem {ix : List Def} {f : Path} {line : Nat} {n : String} {d : Def} (hd : d ∈ ix)
    (hn : d.name = n) (hs : d.file = f ∧ d.line ≤ line ∧ line ≤ d.endLine) :
    ∃ d', ownDefAt ix f line n = some d' :=
  Option.isSome_iff_exists.mp (List.find?_isSome.mpr ⟨d, mem_defsOf.mpr ⟨hd, hn⟩, spans_iff.mpr hs⟩)

theorem usageAt_some {us : List Usage} {line col : Nat} {w : String} {u : Usage}
    (h : usageAt us line w col = some u) :
    u ∈ us ∧ u.line = line ∧ u.name = w ∧ u.startChar ≤ col ∧ col < u.endChar :=
  have hc := List.find?_some h
  ⟨List.mem_of_find?_eq_some h, covers_iff.mp hc⟩

theorem usageAt_eq_none {us : List Usage} {line col : Nat} {w : String} :
    usageAt us line w col = none ↔
      ∀ u ∈ us, ¬ (u.line = line ∧ u.name = w ∧ u.startChar ≤ col ∧ col < u.endChar) := by
  simp only [usageAt, List.find?_eq_none, covers_iff]

theorem usageAt_of_mem {us : List Usage} {line col : Nat} {w : String} {u : Usage} (hu : u ∈ us)
    (hc : u.line = line ∧ u.name = w ∧ u.startChar ≤ col ∧ col < u.endChar) :
    ∃ u', usageAt us line w col = some u' :=
  Option.isSome_iff_exists.mp (List.find?_isSome.mpr ⟨u, hu, covers_iff.mpr hc⟩)

/-- what `walkUp` finds in one directory (`walkUp_eq`) -/
def level (ds : List Def) (filt : Def → Bool) (imp : Path → Bool) (dir : Path) : Option Def :=
  (ds.find? (fun d => d.file == conftestOf dir && filt d)).or
    (if imp (conftestOf dir) then ds.find? filt else none)

theorem walkUp_eq (ds : List Def) (filt : Def → Bool) (imp : Path → Bool) (dirs : List Path) :
    walkUp ds filt imp dirs = dirs.findSome? (level ds filt imp) := by
  induction dirs with
  | nil => rfl
  | cons dir rest ih =>
    rw [walkUp, List.findSome?_cons, level, ← ih]
    cases ds.find? (fun d => d.file == conftestOf dir && filt d) with
    | some d => rfl
    | none =>
      cases imp (conftestOf dir) with
      | false => rfl
      | true => cases ds.find? filt <;> rfl

theorem level_some {ds : List Def} {filt : Def → Bool} {imp : Path → Bool} {dir : Path} {d : Def}
    (h : level ds filt imp dir = some d) :
    d ∈ ds ∧ filt d = true ∧
      (d.file = conftestOf dir ∨ imp (conftestOf dir) = true ∧ ds.find? filt = some d) := by
  rcases Option.or_eq_some_iff.mp h with h | ⟨-, h⟩
  · have := List.find?_some h
    simp only [Bool.and_eq_true, beq_iff_eq] at this
    exact ⟨List.mem_of_find?_eq_some h, this.2, .inl this.1⟩
  · split at h
    · next hi => exact ⟨List.mem_of_find?_eq_some h, List.find?_some h, .inr ⟨hi, h⟩⟩
    · cases h

theorem level_none {ds : List Def} {filt : Def → Bool} {imp : Path → Bool} {dir : Path} :
    level ds filt imp dir = none ↔
      (∀ e ∈ ds, e.file = conftestOf dir → filt e = false) ∧
      (imp (conftestOf dir) = true → ds.find? filt = none) := by
  rw [level, Option.or_eq_none_iff, List.find?_eq_none]
  refine and_congr ?_ ite_eq_right_iff
  simp only [Bool.and_eq_true, beq_iff_eq, not_and, Bool.not_eq_true]

theorem walkUp_some {ds : List Def} {filt : Def → Bool} {imp : Path → Bool} {dirs : List Path} {d : Def} :
    walkUp ds filt imp dirs = some d ↔ ∃ pre dir post, dirs = pre ++ dir :: post ∧
      level ds filt imp dir = some d ∧ ∀ x ∈ pre, level ds filt imp x = none := by
  rw [walkUp_eq, List.findSome?_eq_some_iff]

theorem walkUp_none {ds : List Def} {filt : Def → Bool} {imp : Path → Bool} {dirs : List Path} :
    walkUp ds filt imp dirs = none ↔ ∀ x ∈ dirs, level ds filt imp x = none := by
  rw [walkUp_eq, List.findSome?_eq_none_iff]

/-- the ancestors come by strictly decreasing length, so the first directory that yields is the deepest -/
theorem walkUp_ancestors_some {ds : List Def} {filt : Def → Bool} {imp : Path → Bool} {p : Path} {d : Def}
    (h : walkUp ds filt imp (ancestorsOfDir p) = some d) :
    ∃ dir, dir <+: p ∧ level ds filt imp dir = some d ∧
      ∀ dir', dir' <+: p → level ds filt imp dir' ≠ none → dir'.length ≤ dir.length := by
  obtain ⟨pre, dir, post, hsplit, hl, hpre⟩ := walkUp_some.mp h
  have hshorter : ∀ x ∈ post, x.length < dir.length :=
    (List.pairwise_cons.mp (List.pairwise_append.mp (hsplit ▸ ancestors_pairwise p)).2.1).1
  refine ⟨dir, mem_ancestors.mp (hsplit ▸ List.mem_append_right _ (.head _)), hl, fun dir' hp hne => ?_⟩
  rcases List.mem_append.mp (hsplit ▸ mem_ancestors.mpr hp) with hin | hin
  · exact absurd (hpre dir' hin) hne
  · rcases List.mem_cons.mp hin with rfl | hpost
    · exact Nat.le_refl _
    · exact Nat.le_of_lt (hshorter dir' hpost)

theorem level_filter (ds : List Def) (filt : Def → Bool) (imp : Path → Bool) :
    level (ds.filter filt) (fun _ => true) imp = level ds filt imp := by
  funext dir
  simp only [level, find?_filter_and, Bool.and_true, Bool.true_and]

theorem walkUp_filter (ds : List Def) (filt : Def → Bool) (imp : Path → Bool) (dirs : List Path) :
    walkUp (ds.filter filt) (fun _ => true) imp dirs = walkUp ds filt imp dirs := by
  simp only [walkUp_eq, level_filter]

/-- each stage answers, or found nothing and the next is asked.  For `resolve` only: a filtered
    query is a query over the filtered index (`resolveF_filter`). -/
theorem resolve_cases (ix : List Def) (imp : Path → String → Bool) (f : Path) (n : String)
    (r : Option Def) (h : resolve ix imp f n = r) :
    let ds := defsOf ix n
    (∃ d, r = some d ∧ maxByLine (ds.filter (fun d => d.file == f)) = some d) ∨
    (maxByLine (ds.filter (fun d => d.file == f)) = none ∧
      ((∃ d, r = some d ∧ walkUp ds (fun _ => true) (fun c => imp c n) (ancestorsOfDir (dirOf f)) = some d) ∨
       (walkUp ds (fun _ => true) (fun c => imp c n) (ancestorsOfDir (dirOf f)) = none ∧
         ((∃ d, r = some d ∧ ds.find? (fun d => d.plugin && !d.thirdParty) = some d) ∨
          (ds.find? (fun d => d.plugin && !d.thirdParty) = none ∧
            r = ds.find? (fun d => d.thirdParty)))))) := by
  subst h
  simp only [resolve, resolveF, Bool.and_true]
  cases maxByLine ((defsOf ix n).filter (fun d => d.file == f)) with
  | some d => exact .inl ⟨d, rfl, rfl⟩
  | none =>
    refine .inr ⟨rfl, ?_⟩
    cases walkUp (defsOf ix n) (fun _ => true) (fun c => imp c n) (ancestorsOfDir (dirOf f)) with
    | some d => exact .inl ⟨d, rfl, rfl⟩
    | none =>
      refine .inr ⟨rfl, ?_⟩
      cases (defsOf ix n).find? (fun d => d.plugin && !d.thirdParty) with
      | some d => exact .inl ⟨d, rfl, rfl⟩
      | none => exact .inr ⟨rfl, rfl⟩

theorem resolveF_filter (ix : List Def) (imp : Path → String → Bool) (f : Path) (n : String)
    (filt : Def → Bool) :
    resolveF ix imp f n filt = resolve (ix.filter filt) imp f n := by
  unfold resolve resolveF
  simp only [defsOf_filter, Bool.and_true]
  rw [walkUp_filter, maxByLine_filter_eq, find?_filter_and, find?_filter_and]

end PLS
