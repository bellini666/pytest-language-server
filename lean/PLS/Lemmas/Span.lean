/-
  The place of a fixture name inside a string literal's source text: byte slices cut a line where the byte lengths
  say (`bslice*`), and what `wordOccAux`, `literalSegment`, `stringNameSpan` answer is a place where the text spells
  the name.
-/
import PLS.Model.Text
namespace PLS

theorem blen_append (a b : Chars) : blen (a ++ b) = blen a + blen b := by
  induction a with
  | nil => exact (Nat.zero_add _).symm
  | cons c cs ih => simp only [List.cons_append, blen, ih, Nat.add_assoc]

theorem clen_pos (c : Char) : 0 < clen c := by
  fun_cases clen c <;> decide

theorem bsliceFrom_cons_add (c : Char) (cs : Chars) (n : Nat) :
    bsliceFrom (c :: cs) (clen c + n) = bsliceFrom cs n := by
  obtain ⟨k, hk⟩ := Nat.exists_eq_add_one_of_ne_zero (Nat.ne_of_gt (Nat.add_pos_left (clen_pos c) n))
  rw [hk, bsliceFrom, if_pos (hk ▸ Nat.le_add_right _ _), ← hk, Nat.add_sub_cancel_left]

theorem bsliceTo_cons_add (c : Char) (cs : Chars) (n : Nat) :
    bsliceTo (c :: cs) (clen c + n) = (bsliceTo cs n).map (c :: ·) := by
  obtain ⟨k, hk⟩ := Nat.exists_eq_add_one_of_ne_zero (Nat.ne_of_gt (Nat.add_pos_left (clen_pos c) n))
  rw [hk, bsliceTo, if_pos (hk ▸ Nat.le_add_right _ _), ← hk, Nat.add_sub_cancel_left]

theorem bsliceFrom_append (p t : Chars) : bsliceFrom (p ++ t) (blen p) = some t := by
  induction p with
  | nil => rw [List.nil_append, blen, bsliceFrom]
  | cons c cs ih => rw [List.cons_append, blen, bsliceFrom_cons_add, ih]

theorem bsliceTo_append (a b : Chars) : bsliceTo (a ++ b) (blen a) = some a := by
  induction a with
  | nil => rw [blen, bsliceTo]
  | cons c cs ih => rw [List.cons_append, blen, bsliceTo_cons_add, ih, Option.map_some]

theorem bsliceFrom_split {l : Chars} {k : Nat} {t : Chars} (h : bsliceFrom l k = some t) :
    ∃ p, l = p ++ t ∧ blen p = k := by
  fun_induction bsliceFrom l k with
  | case1 l => cases h; exact ⟨[], rfl, rfl⟩  -- `k = 0`
  | case3 c cs k hle ih =>  -- the first character fits
    obtain ⟨p, rfl, hb⟩ := ih h
    exact ⟨c :: p, rfl, by rw [blen, hb, Nat.add_sub_cancel' hle]⟩
  | case2 | case4 => cases h  -- past the end / inside a character

theorem bsliceTo_split {l : Chars} {k : Nat} {seg : Chars} (h : bsliceTo l k = some seg) :
    ∃ q, l = seg ++ q ∧ blen seg = k := by
  fun_induction bsliceTo l k generalizing seg with
  | case1 l => cases h; exact ⟨l, rfl, rfl⟩  -- `k = 0`
  | case3 c cs k hle ih =>  -- the first character fits
    obtain ⟨s', hs', rfl⟩ := Option.map_eq_some_iff.mp h
    obtain ⟨q, rfl, hb⟩ := ih hs'
    exact ⟨q, rfl, by rw [blen, hb, Nat.add_sub_cancel' hle]⟩
  | case2 | case4 => cases h  -- past the end / inside a character

/-- a positive `skip` only puts the search off by that many characters, so the answer is a whole word whatever
    `skip` is -/
theorem wordOccAux_whole_word (name : Chars) : ∀ (seg : Chars) (prev : Option Char) (skip off : Nat),
    wordOccAux name prev skip seg = some off →
    ∃ pre post, seg = pre ++ name ++ post ∧ blen pre = off ∧ post.head?.any isWordChar = false ∧
      (pre.getLast?.or prev).any isWordChar = false := by
  intro seg prev skip off h
  fun_induction wordOccAux name prev skip seg generalizing off with
  | case1 => cases h  -- the segment is exhausted
  | case4 prev c cs hpre hrej =>
    -- the name stands here, unrejected
    cases h
    obtain ⟨t, ht⟩ := List.isPrefixOf_iff_prefix.mp hpre
    rw [← ht, List.drop_left, Bool.or_eq_true, not_or, Bool.not_eq_true, Bool.not_eq_true] at hrej
    exact ⟨[], t, ht.symm, rfl, hrej.2, hrej.1⟩
  | case2 _ _ c _ ih | case3 _ c _ _ _ ih | case5 _ c _ _ ih =>
    -- a character is passed over
    obtain ⟨o, ho, rfl⟩ := Option.map_eq_some_iff.mp h
    obtain ⟨pre, post, rfl, rfl, ha, hp⟩ := ih o ho
    refine ⟨c :: pre, post, rfl, Nat.add_comm _ _, ha, ?_⟩
    rwa [List.getLast?_cons, Option.some_or, ← Option.or_some]

theorem wordOccAux_spells (name : Chars) : ∀ (seg : Chars) (prev : Option Char) (skip off : Nat),
    wordOccAux name prev skip seg = some off →
    ∃ pre post, seg = pre ++ name ++ post ∧ blen pre = off ∧ post.head?.any isWordChar = false := by
  intro seg prev skip off h
  obtain ⟨pre, post, hs, hb, ha, _⟩ := wordOccAux_whole_word name seg prev skip off h
  exact ⟨pre, post, hs, hb, ha⟩

theorem wordOccAux_at_start {name post : Chars} {prev : Option Char} (hn : name ≠ [])
    (hprev : prev.any isWordChar = false) (hp : post.head?.any isWordChar = false) :
    wordOccAux name prev 0 (name ++ post) = some 0 := by
  obtain ⟨c, cs, rfl⟩ := List.exists_cons_of_ne_nil hn
  have hpre : (c :: cs).isPrefixOf (c :: (cs ++ post)) = true :=
    List.isPrefixOf_iff_prefix.mpr (List.prefix_append (c :: cs) post)
  rw [List.cons_append, wordOccAux, if_pos hpre, if_neg]
  rw [List.length_cons, List.drop_succ_cons, List.drop_left, hprev, hp]
  exact Bool.false_ne_true

/-- the shape `C15_oneline_literal_span` meets: the name right after the opening quote -/
theorem wordOccAux_after_quote {name post : Chars} {q : Char} (hn : name ≠ [])
    (hq : isWordChar q = false) (hw : ∀ c ∈ name, isWordChar c = true)
    (hp : post.head?.any isWordChar = false) :
    wordOccAux name none 0 (q :: (name ++ post)) = some (clen q) := by
  have hnp : ¬ name.isPrefixOf (q :: (name ++ post)) = true := by
    obtain ⟨c, cs, rfl⟩ := List.exists_cons_of_ne_nil hn
    intro h
    rw [List.isPrefixOf_cons_cons, Bool.and_eq_true, beq_iff_eq] at h
    have := hw c List.mem_cons_self
    rw [h.1, hq] at this
    cases this
  rw [wordOccAux, if_neg hnp, wordOccAux_at_start hn (Option.any_some.trans hq) hp,
    Option.map_some, Nat.zero_add]

theorem skipStringPrefix_spec {s s' : Nat} {seg seg' : Chars} (h : skipStringPrefix s seg = (s', seg')) :
    ∃ p, seg = p ++ seg' ∧ s' = s + blen p := by
  revert h
  fun_cases skipStringPrefix s seg with
  | case1 =>  -- there is a quote
    intro h
    cases h
    exact ⟨_, List.takeWhile_append_dropWhile.symm, rfl⟩
  | case2 =>  -- no quote: nothing is skipped
    intro h
    cases h
    exact ⟨[], rfl, rfl⟩

theorem skipStringPrefix_quote (s : Nat) {pfx rest : Chars} {q : Char} (hpfx : ∀ c ∈ pfx, isQuote c = false)
    (hq : isQuote q = true) : skipStringPrefix s (pfx ++ q :: rest) = (s + blen pfx, q :: rest) := by
  have hnot : ∀ c ∈ pfx, (!isQuote c) = true := fun c hc => by rw [hpfx c hc]; rfl
  rw [skipStringPrefix, if_pos (by simp [hq]), List.takeWhile_append_of_pos hnot, List.dropWhile_append_of_pos hnot]
  simp only [List.takeWhile_cons, List.dropWhile_cons, hq, Bool.not_true, Bool.false_eq_true, if_false, List.append_nil]

theorem literalSegment_spec (lines : List Chars) (line col endLine endCol ln s : Nat) (seg : Chars)
    (h : literalSegment lines line col endLine endCol ln = some (s, seg)) :
    ∃ L p q, lines[ln - 1]? = some L ∧ L = p ++ seg ++ q ∧ blen p = s := by
  revert h
  fun_cases literalSegment lines line col endLine endCol ln with
  | case1 | case2 => nofun  -- no line `ln` / no slice from the start column
  | case3 L hL s0 e t hfrom =>
    intro h
    obtain ⟨seg', hto, hs'⟩ := Option.map_eq_some_iff.mp h
    obtain ⟨p, rfl, hp⟩ := bsliceFrom_split hfrom
    obtain ⟨q, rfl, -⟩ := bsliceTo_split hto
    -- on the literal's first line the segment starts at the opening quote
    obtain ⟨p', rfl, rfl⟩ : ∃ p', seg' = p' ++ seg ∧ s = blen p + blen p' := by
      rw [← hp] at hs'
      split at hs'
      · exact skipStringPrefix_spec hs'
      · cases hs'; exact ⟨[], rfl, rfl⟩
    exact ⟨_, p ++ p', q, hL, by simp only [List.append_assoc], blen_append p p'⟩

theorem literalSegment_oneline {lines : List Chars} {ln : Nat} {pre lit post : Chars}
    (h : lines[ln - 1]? = some (pre ++ lit ++ post)) :
    literalSegment lines ln (blen pre) ln (blen pre + blen lit) ln = some (skipStringPrefix (blen pre) lit) := by
  simp only [literalSegment, h, beq_self_eq_true, if_true, List.append_assoc, bsliceFrom_append,
    Nat.add_sub_cancel_left, bsliceTo_append, Option.map_some]

theorem stringNameSpan_spec (lines : List Chars) (name : Chars) (line col endLine endCol : Nat) :
    stringNameSpan lines name line col endLine endCol = (line, col + 1, max (endCol - 1) (col + 1)) ∨
    ∃ ln a, stringNameSpan lines name line col endLine endCol = (ln, a, a + blen name) ∧ line ≤ ln ∧ ln ≤ endLine ∧
      ∃ L pre post, lines[ln - 1]? = some L ∧ L = pre ++ name ++ post ∧ blen pre = a := by
  unfold stringNameSpan
  generalize hf : (if name.contains '\n' = true then none else _) = found
  cases found with
  | none => exact .inl rfl
  | some k =>
    -- a line break in the name: never found
    split at hf
    · cases hf
    -- found on line `line + i`, in the segment `seg` starting at byte column `s`
    obtain ⟨i, hi, hk⟩ := List.exists_of_findSome?_eq_some hf
    split at hk
    · cases hk
    next s seg hseg =>
      obtain ⟨off, hoff, rfl⟩ := Option.map_eq_some_iff.mp hk
      obtain ⟨pre', post', rfl, rfl, -⟩ := wordOccAux_spells name seg none 0 off hoff
      obtain ⟨L, p, q, hL, rfl, rfl⟩ := literalSegment_spec _ _ _ _ _ _ _ _ hseg
      have hle : line + i ≤ endLine := Nat.le_of_lt_succ (Nat.add_lt_of_lt_sub' (List.mem_range.mp hi))
      exact .inr ⟨_, _, rfl, Nat.le_add_right _ _, hle,
        _, p ++ pre', post' ++ q, hL, by simp only [List.append_assoc], blen_append p pre'⟩

theorem stringNameSpan_oneline {lines : List Chars} {name seg : Chars} {ln col endCol s off : Nat}
    (hnl : name.contains '\n' = false) (hseg : literalSegment lines ln col ln endCol ln = some (s, seg))
    (hocc : wordOccAux name none 0 seg = some off) :
    stringNameSpan lines name ln col ln endCol = (ln, s + off, s + off + blen name) := by
  simp only [stringNameSpan, hnl, Bool.false_eq_true, if_false, Nat.add_sub_cancel_left, List.range_one,
    List.findSome?_cons, Nat.add_zero, hseg, hocc, Option.map_some, Option.getD_some]

end PLS
