/-
  PLS.Model.Conc — the shared per-name maps (`definitions`, `usage_by_fixture`) at the
  granularity of ONE DashMap call per step, with any number of threads re-analysing files.

  One instance of this model stands for one of the two maps.  An entry is tagged by the file it
  belongs to (`Ent.file`) — `FixtureDefinition.file_path`, resp. the path component of a
  `usage_by_fixture` entry — and `tag` stands for the rest of the record.

  The three instructions are the three call shapes of `analyzer.rs`:
    retain k      `if let Some(mut v) = map.get_mut(k) { v.retain(|e| e.file != F); v.is_empty() } else { false }`
                  (cleanup_definitions_for_file step 2 / cleanup_usages_for_file)
    condRemove k  `if should_remove { map.remove_if(k, |_, v| v.is_empty()) }`   (step 3)
    push k t      `map.entry(k).or_default().push(entry)`                          (record_fixture_*)
  Each is atomic because DashMap holds the shard lock for the duration of the call / guard.
  `XInstr.remove` (an unconditional `map.remove(k)`) is NOT what the code does; it exists so the
  executable model can replay a variant of the code and so the counterexample theorem can be stated.
-/
namespace PLS.Conc

abbrev File := Nat
structure Ent where
  file : File
  tag  : Nat            -- stands for the rest of the definition
  deriving DecidableEq, Repr

abbrev Key := String
abbrev Map := Key → Option (List Ent)

inductive Instr where
  | retain (k : Key)          -- get_mut + retain(file ≠ F) ; flag := is_empty   (absent key: flag := false)
  | condRemove (k : Key)      -- if flag { remove_if(k, is_empty) }
  | push (k : Key) (t : Nat)  -- entry(k).or_default().push(⟨F,t⟩)
  deriving Repr

structure Thread where
  file : File
  flag : Bool
  prog : List Instr

def upd (m : Map) (k : Key) (v : Option (List Ent)) : Map := fun k' => if k' = k then v else m k'

@[simp] theorem upd_same (m : Map) k v : upd m k v k = v := if_pos rfl
@[simp] theorem upd_other (m : Map) k v k' (h : k' ≠ k) : upd m k v k' = m k' := if_neg h

/-- one atomic step of thread `t` (its next instruction) -/
def stepInstr (m : Map) (F : File) (flag : Bool) : Instr → Map × Bool
  | .retain k =>
    match m k with
    | none => (m, false)
    | some v => let v' := v.filter (fun e => e.file != F); (upd m k (some v'), v'.isEmpty)
  | .condRemove k =>
    if flag then
      match m k with
      | some [] => (upd m k none, flag)
      | _ => (m, flag)
    else (m, flag)
  | .push k t => (upd m k (some ((m k).getD [] ++ [⟨F, t⟩])), flag)

/-- cleanup of `olds` then registration of `news` -/
def program (olds : List Key) (news : List (Key × Nat)) : List Instr :=
  (olds.flatMap fun k => [.retain k, .condRemove k]) ++ news.map fun (k, t) => .push k t

structure Sys where
  m : Map
  ts : List Thread

/-- schedule: list of thread indices; an index whose thread is finished is a no-op -/
def stepSys (s : Sys) (i : Nat) : Sys :=
  match s.ts[i]? with
  | none => s
  | some t =>
    match t.prog with
    | [] => s
    | ins :: rest =>
      let (m', fl') := stepInstr s.m t.file t.flag ins
      { m := m', ts := s.ts.set i { t with flag := fl', prog := rest } }

def run (s : Sys) (sched : List Nat) : Sys := sched.foldl stepSys s

/-- entries under key `k`, `none` read as empty -/
def ents (m : Map) (k : Key) : List Ent := (m k).getD []

def projF (F : File) (l : List Ent) : List Ent := l.filter (fun e => e.file == F)

/-- what a thread's own steps do to its own projection -/
def lstep (F : File) (P : Key → List Ent) : Instr → (Key → List Ent)
  | .retain k => fun k' => if k' = k then [] else P k'
  | .condRemove _ => P
  | .push k t => fun k' => if k' = k then P k' ++ [⟨F, t⟩] else P k'

def lrun (F : File) (P : Key → List Ent) (p : List Instr) : Key → List Ent := p.foldl (lstep F) P

theorem ents_upd_same (m : Map) k v : ents (upd m k v) k = v.getD [] :=
  congrArg (·.getD []) (upd_same m k v)
theorem ents_upd_other (m : Map) k v k' (h : k' ≠ k) : ents (upd m k v) k' = ents m k' :=
  congrArg (·.getD []) (upd_other m k v k' h)

/-! ### executable extension used by the driver and by the counterexample -/

inductive XInstr where
  | base (i : Instr)
  | remove (k : Key)          -- `if flag { map.remove(k) }` — unconditional removal
  deriving Repr

def stepX (m : Map) (F : File) (flag : Bool) : XInstr → Map × Bool
  | .base i => stepInstr m F flag i
  | .remove k => if flag then (upd m k none, flag) else (m, flag)

structure XThread where
  file : File
  flag : Bool
  prog : List XInstr

structure XSys where
  m : Map
  ts : List XThread

def stepXSys (s : XSys) (i : Nat) : XSys :=
  match s.ts[i]? with
  | none => s
  | some t =>
    match t.prog with
    | [] => s
    | ins :: rest =>
      let (m', fl') := stepX s.m t.file t.flag ins
      { m := m', ts := s.ts.set i { t with flag := fl', prog := rest } }

def runX (s : XSys) (sched : List Nat) : XSys := sched.foldl stepXSys s

end PLS.Conc
