/-
  C01 — fixture resolution follows pytest's shadowing order.
-/
import PLS.Lemmas.Order
import PLS.Lemmas.Bridge
namespace PLS

/-- `prov c d` : file `c` provides `d` (it defines it, or imports it) -/
def ViaConftest (prov : Path → Def → Prop) (f : Path) (d : Def) : Prop :=
  ∃ dir, dir <+: dirOf f ∧ prov (conftestOf dir) d

/-- the visibility rule of the property text -/
def Visible (prov : Path → Def → Prop) (f : Path) (d : Def) : Prop :=
  d.file = f ∨ ViaConftest prov f d ∨ (d.plugin = true ∧ d.thirdParty = false) ∨ d.thirdParty = true

/-- `d` is at least as good a candidate as `e`: same file ≻ nearer conftest ≻ farther conftest ≻
    workspace plugin ≻ third party — by *path length*, not by walk order. -/
def Better (prov : Path → Def → Prop) (f : Path) (d e : Def) : Prop :=
  d.file = f ∨
  (e.file ≠ f ∧
    ((∃ dir, dir <+: dirOf f ∧ prov (conftestOf dir) d ∧
        ∀ dir', dir' <+: dirOf f → prov (conftestOf dir') e → dir'.length ≤ dir.length) ∨
     (¬ ViaConftest prov f e ∧
        ((d.plugin = true ∧ d.thirdParty = false) ∨ ¬ (e.plugin = true ∧ e.thirdParty = false)))))

/-- what the property demands of an answer for name `n` used in file `f` -/
def Correct (ix : List Def) (prov : Path → Def → Prop) (f : Path) (n : String) : Option Def → Prop
  | none => ∀ d ∈ ix, d.name = n → ¬ Visible prov f d
  | some d => d ∈ ix ∧ d.name = n ∧ Visible prov f d ∧
      (∀ e ∈ ix, e.name = n → Visible prov f e → Better prov f d e) ∧
      (d.file = f → ∀ e ∈ ix, e.name = n → e.file = f → e.line ≤ d.line)

def OracleExact (ix : List Def) (prov : Path → Def → Prop) (imp : Path → String → Bool) (n : String) : Prop :=
  ∀ c, imp c n = true ↔ ∃ d ∈ ix, d.name = n ∧ d.file ≠ c ∧ prov c d

/-- the full statement (no `Himp`) -/
def C01_statement : Prop :=
  ∀ (ix : List Def) (prov : Path → Def → Prop) (imp : Path → String → Bool) (f : Path) (n : String),
    (∀ c d, d.file = c → prov c d) → OracleExact ix prov imp n →
    Correct ix prov f n (resolve ix imp f n)

/-- `H_imp`: then the import branch's "first definition anywhere" cannot pick one the importing
    conftest does not provide -/
def Himp (ix : List Def) (prov : Path → Def → Prop) (imp : Path → String → Bool) (n : String) : Prop :=
  ∀ c, imp c n = true → ∀ d, (defsOf ix n).head? = some d → prov c d

/-- **C01 (partial: under `H_imp`).**  The resolver returns a visible definition of the name that
    is at least as good as every other visible one, the last one when it is in the same file, and
    nothing only when nothing is visible — for every index, order, file and name. -/
theorem C01_resolve_correct (ix : List Def) (prov : Path → Def → Prop) (imp : Path → String → Bool)
    (f : Path) (n : String)
    (hown : ∀ c d, d.file = c → prov c d) (hex : OracleExact ix prov imp n) (himp : Himp ix prov imp n) :
    Correct ix prov f n (resolve ix imp f n) := by
  have level_prov {x d} (h : level (defsOf ix n) (fun _ => true) (fun c => imp c n) x = some d) :
      prov (conftestOf x) d := by
    rcases (level_some h).2.2 with hfile | ⟨hi, hfind⟩
    · exact hown _ _ hfile
    · exact himp _ hi d (find?_true _ ▸ hfind)
  have level_empty {x} (h : level (defsOf ix n) (fun _ => true) (fun c => imp c n) x = none) :
      ∀ e ∈ defsOf ix n, ¬ prov (conftestOf x) e := by
    intro e he hprov
    obtain ⟨hdirect, himpx⟩ := level_none.mp h
    by_cases hfile : e.file = conftestOf x
    · cases hdirect e he hfile
    · obtain ⟨hix, hen⟩ := mem_defsOf.mp he
      exact List.find?_eq_none.mp (himpx ((hex _).mpr ⟨e, hix, hen, hfile, hprov⟩)) e he rfl
  have plug_iff (e : Def) : (e.plugin && !e.thirdParty) = true ↔ e.plugin = true ∧ e.thirdParty = false := by
    rw [Bool.and_eq_true, Bool.not_eq_true']
  have assemble {d} (hr : resolve ix imp f n = some d) (hv : Visible prov f d)
      (hb : ∀ e ∈ defsOf ix n, Better prov f d e) : Correct ix prov f n (resolve ix imp f n) :=
    hr ▸ ⟨(resolve_mem hr).1, (resolve_mem hr).2, hv, fun e he hen _ => hb e (mem_defsOf.mpr ⟨he, hen⟩),
      resolve_last_in_file hr⟩
  rcases resolve_cases ix imp f n _ rfl with ⟨d, hr, hd⟩ | ⟨hsame, hc⟩
  · have hf : d.file = f := beq_iff_eq.mp (List.mem_filter.mp (maxByLine_some hd).1).2
    exact assemble hr (.inl hf) fun _ _ => .inl hf
  have nosame : ∀ e ∈ defsOf ix n, e.file ≠ f := maxByLine_sameFile_eq_none.mp hsame
  rcases hc with ⟨d, hr, hw⟩ | ⟨hw, hc⟩
  · obtain ⟨dir, hdir, hl, hmax⟩ := walkUp_ancestors_some hw
    exact assemble hr (.inr (.inl ⟨dir, hdir, level_prov hl⟩)) fun e he =>
      .inr ⟨nosame e he, .inl ⟨dir, hdir, level_prov hl, fun dir' hpref hprove =>
        hmax dir' hpref fun hnone => level_empty hnone e he hprove⟩⟩
  have noconf : ∀ e ∈ defsOf ix n, ¬ ViaConftest prov f e := fun e he ⟨dir', hpref, hprove⟩ =>
    level_empty (walkUp_none.mp hw dir' (mem_ancestors.mpr hpref)) e he hprove
  rcases hc with ⟨d, hr, hp⟩ | ⟨hp, hr⟩
  · have hpp := List.find?_some hp
    rw [plug_iff] at hpp
    exact assemble hr (.inr (.inr (.inl hpp))) fun e he =>
      .inr ⟨nosame e he, .inr ⟨noconf e he, .inl hpp⟩⟩
  have noplug : ∀ e ∈ defsOf ix n, ¬ (e.plugin = true ∧ e.thirdParty = false) := fun e he hpl =>
    List.find?_eq_none.mp hp e he ((plug_iff e).mpr hpl)
  cases ht : List.find? (fun d => d.thirdParty) (defsOf ix n) with
  | some d =>
    exact assemble (hr.trans ht) (.inr (.inr (.inr (List.find?_some ht)))) fun e he =>
      .inr ⟨nosame e he, .inr ⟨noconf e he, .inr (noplug e he)⟩⟩
  | none =>
    rw [hr, ht]
    intro e hix hen
    have he := mem_defsOf.mpr ⟨hix, hen⟩
    rintro (h | h | h | h)
    · exact nosame e he h
    · exact noconf e he h
    · exact noplug e he h
    · exact List.find?_eq_none.mp ht e he h

/-- **C01 (navigation = resolution of the usage under the cursor).** For every recorded usage and
    every column inside its span, go-to-definition answers with the resolution of that usage
    (all usage kinds alike: they differ only in how the span was recorded). -/
theorem C01_goto_is_resolveUsage (ix : List Def) (imp : Path → String → Bool) (us : List Usage)
    (line0 col : Nat) (w : String) (u : Usage) (h : usageAt us (line0 + 1) w col = some u) :
    gotoWith ix imp us line0 col (some w) = resolveUsage ix imp u ∧
      u ∈ us ∧ u.line = line0 + 1 ∧ u.name = w ∧ u.startChar ≤ col ∧ col < u.endChar :=
  ⟨by simp only [gotoWith, h], usageAt_some h⟩

/-- **C01 (nothing outside a usage).** When no recorded usage of that name on that line contains
    the column — or no word is under the cursor — the answer is empty. -/
theorem C01_goto_outside (ix : List Def) (imp : Path → String → Bool) (us : List Usage)
    (line0 col : Nat) (w : Option String)
    (h : ∀ u ∈ us, ∀ x, w = some x → ¬ (u.line = line0 + 1 ∧ u.name = x ∧ u.startChar ≤ col ∧ col < u.endChar)) :
    gotoWith ix imp us line0 col w = none := by
  cases w with
  | none => rfl
  | some x =>
    simp only [gotoWith, usageAt_eq_none.mpr fun u hu => h u hu x rfl]

/-! ## the full statement is false of the code (E1) -/

namespace C01cx
def dB : Def :=
  { name := "foo", file := ["b", "conftest.py"], line := 3, endLine := 4, startChar := 4,
    endChar := 7, docstring := none, returnType := none, thirdParty := false, plugin := false,
    deps := [], scope := .function, yieldLine := none, autouse := false }
def dA : Def := { dB with file := ["a", "fx.py"] }
/-- `b/conftest.py` was analysed first -/
def ix : List Def := [dB, dA]
/-- `a/conftest.py` does `from .fx import *` -/
def prov (c : Path) (d : Def) : Prop := d.file = c ∨ (c = ["a", "conftest.py"] ∧ d.file = ["a", "fx.py"])
def imp (c : Path) (n : String) : Bool := c == ["a", "conftest.py"] && n == "foo"
def f : Path := ["a", "test_a.py"]

theorem resolve_ix : resolve ix imp f "foo" = some dB := by decide +kernel
end C01cx

/-- about variables: instantiating `C01_statement` at the counterexample itself makes the elaborator
    evaluate `resolve` there, to normalise `Correct … (resolve …)` -/
theorem C01_refuted {ix : List Def} {prov : Path → Def → Prop} {imp : Path → String → Bool} {f : Path}
    {n : String} {d : Def} (hown : ∀ c d, d.file = c → prov c d) (hex : OracleExact ix prov imp n)
    (hr : resolve ix imp f n = some d) (hv : ¬ Visible prov f d) : ¬ C01_statement := fun h =>
  have hc : Correct ix prov f n (some d) := hr ▸ h ix prov imp f n hown hex
  hv hc.2.2.1

open C01cx in
/-- **`C01_statement` fails**: with a sibling `b/conftest.py` registered first, the usage in
    `a/test_a.py` resolves to the invisible sibling definition (replayed on the implementation as
    corpus case `corpus/C01/e1_sibling_first.case`). -/
theorem C01_statement_false : ¬ C01_statement := by
  have himp (c : Path) : imp c "foo" = true ↔ c = ["a", "conftest.py"] := by
    rw [imp, Bool.and_eq_true, beq_iff_eq, beq_iff_eq, and_iff_left rfl]
  refine C01_refuted (prov := prov) (fun c d h => .inl h) (fun c => (himp c).trans ⟨?_, ?_⟩) resolve_ix ?_
  · -- the oracle is exact: `a/conftest.py` imports `dA` …
    rintro rfl
    exact ⟨dA, .tail _ (.head _), rfl, by decide +kernel, .inr ⟨rfl, rfl⟩⟩
  · -- … and no other file provides what it does not define
    rintro ⟨d, _, _, hne, hp | ⟨hc, _⟩⟩
    · exact absurd hp hne
    · exact hc
  · -- `dB` is not visible from `a/test_a.py`
    rintro (hv | ⟨dir, hpre, hp | ⟨_, hp⟩⟩ | hv | hv)
    · exact absurd hv (by decide)
    · -- `b/conftest.py = dir/conftest.py` forces `dir = [b]`, not a prefix of `[a]`
      cases conftestOf_inj (a := ["b"]) hp
      exact absurd hpre (by decide)
    · exact absurd hp (by decide)
    · exact absurd hv.1 (by decide)
    · exact absurd hv (by decide)

/-- non-vacuity of `Himp`: the E1 layout with `a/*` registered first -/
example : Himp [C01cx.dA, C01cx.dB] C01cx.prov C01cx.imp "foo" := by
  intro c hc d hd
  have hfirst : (defsOf [C01cx.dA, C01cx.dB] "foo").head? = some C01cx.dA := by decide +kernel
  cases hfirst.symm.trans hd
  exact .inr ⟨beq_iff_eq.mp (Bool.and_eq_true_iff.mp hc).1, rfl⟩

/-- **C01 (bridge).** The state-threading walk the implementation performs answers like the pure
    cascade for the oracle "what the import test said during this walk"; hence the theorems above,
    stated for every oracle, cover it. -/
theorem C01_monadic_bridge {σ : Type} (ix : List Def) (impM : String → Path → σ → Bool × σ) (f : Path)
    (n : String) (filt : Def → Bool) (s : σ) :
    ∃ imp : Path → Bool, (resolveFM ix impM f n filt s).1 =
      resolveF ix (fun c _ => imp c) f n filt :=
  ⟨walkOracle (impM n) (ancestorsOfDir (dirOf f)) s, resolveFM_bridge ix impM f n filt s _ fun _ _ => rfl⟩

end PLS
