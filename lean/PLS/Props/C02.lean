/-
  C02 — a self-named parameter resolves outward; the cursor decides which fixture.
-/
import PLS.Lemmas.Order
import PLS.Props.C01
namespace PLS

/-- the answer the property demands for the parameter of an overriding fixture `D` -/
def OutwardCorrect (ix : List Def) (prov : Path → Def → Prop) (D : Def) (r : Option Def) : Prop :=
  Correct (ix.filter (· != D)) prov D.file D.name r

/-- **C02 (parameter side).**  A usage of `D`'s own name inside `D`'s lines (anywhere in its
    signature, wrapped or not) resolves over the index without `D`, and never to `D` itself — for
    every index, order and placement. -/
theorem C02_param (ix : List Def) (imp : Path → String → Bool) (D : Def) (u : Usage)
    (hline : ownDefAt ix u.file u.line u.name = some D) :
    resolveUsage ix imp u = resolve (ix.filter (· != D)) imp u.file u.name ∧
      resolveUsage ix imp u ≠ some D := by
  have h1 : resolveUsage ix imp u = resolve (ix.filter (· != D)) imp u.file u.name := by
    simp only [resolveUsage, hline, resolveExcl, resolveF_filter]
  refine ⟨h1, fun h => ?_⟩
  have hm := (resolve_mem (h1 ▸ h)).1
  have hD : (D != D) = true := (List.mem_filter.mp hm).2
  rw [bne_self_eq_false] at hD
  cases hD

/-- **C02 (outward answer is the shadowing-order answer).** Under the C01 hypotheses for the index
    without `D`, the parameter resolves to what pytest's order selects once `D` is set aside. -/
theorem C02_outward_correct (ix : List Def) (prov : Path → Def → Prop) (imp : Path → String → Bool)
    (D : Def) (u : Usage)
    (hline : ownDefAt ix u.file u.line u.name = some D) (hname : D.name = u.name) (hfile : D.file = u.file)
    (hown : ∀ c d, d.file = c → prov c d)
    (hex : OracleExact (ix.filter (· != D)) prov imp D.name)
    (himp : Himp (ix.filter (· != D)) prov imp D.name) :
    OutwardCorrect ix prov D (resolveUsage ix imp u) := by
  unfold OutwardCorrect
  rw [(C02_param ix imp D u hline).1, ← hname, ← hfile]
  exact C01_resolve_correct _ prov imp D.file D.name hown hex himp

/-- **C02 (chains).** Along any override chain `D₀, D₁, …` in which each link's parameter usage
    `uᵢ` sits inside `Dᵢ`'s lines, every `uᵢ` resolves over the index without `Dᵢ` and never to `Dᵢ`
    — chains of any length and placement. -/
theorem C02_chain (ix : List Def) (imp : Path → String → Bool) (chain : List (Def × Usage))
    (h : ∀ p ∈ chain, ownDefAt ix p.2.file p.2.line p.2.name = some p.1) :
    ∀ p ∈ chain, resolveUsage ix imp p.2 = resolve (ix.filter (· != p.1)) imp p.2.file p.2.name ∧
      resolveUsage ix imp p.2 ≠ some p.1 :=
  fun p hp => C02_param ix imp p.1 p.2 (h p hp)

/-- **C02 (name side).** With the cursor on the function name of `D` (no usage span under it),
    the fixture at the position is `D`'s own name: references and navigation from the name concern
    the overriding fixture. -/
theorem C02_name (ix : List Def) (us : List Usage) (f : Path) (line0 col : Nat) (D : Def)
    (hD : D ∈ ix) (hf : D.file = f) (hl : D.line = line0 + 1)
    (hno : ∀ u ∈ us, ¬ (u.line = line0 + 1 ∧ u.startChar ≤ col ∧ col < u.endChar)) :
    fixtureAtWith ix us f line0 col (some D.name) = some D.name := by
  unfold fixtureAtWith
  rw [List.find?_eq_none.mpr fun u hu hc => hno u hu (by
    simpa only [Bool.and_eq_true, beq_iff_eq, decide_eq_true_eq, and_assoc] using hc)]
  refine if_pos (List.any_eq_true.mpr ⟨D, hD, ?_⟩)
  rw [Bool.and_eq_true, Bool.and_eq_true, beq_iff_eq, beq_iff_eq, beq_iff_eq]
  exact ⟨⟨hf, hl⟩, rfl⟩

/-- **C02 (a usage span under the cursor wins).** Inside the parameter's span the fixture at the
    position is the parameter's name (the same word — but it is routed to the outward definition). -/
theorem C02_param_position (ix : List Def) (us : List Usage) (f : Path) (line0 col : Nat) (w : Option String)
    (u : Usage) (h : us.find? (fun u => u.line == line0 + 1 && u.startChar ≤ col && col < u.endChar) = some u) :
    fixtureAtWith ix us f line0 col w = some u.name := by
  simp only [fixtureAtWith, h]

/-- **C02 (wrapped signatures are covered).** A parameter named like its fixture `D` on ANY line
    from `D`'s `def` line to its last line — `def foo(\n    foo,\n):` — is found as `D`'s own
    request, whatever else the file defines: it resolves outward and never to a definition that
    spans that line under that name.  (Before the E8 repair only a parameter on the `def` line
    itself was recognised; `corpus/C02/e8_multiline.case`.) -/
theorem C02_multiline_excluded (ix : List Def) (imp : Path → String → Bool) (D : Def) (u : Usage)
    (hD : D ∈ ix) (hname : D.name = u.name) (hfile : D.file = u.file)
    (hlo : D.line ≤ u.line) (hhi : u.line ≤ D.endLine) :
    ∃ D', ownDefAt ix u.file u.line u.name = some D' ∧
      D'.name = u.name ∧ D'.file = u.file ∧ D'.line ≤ u.line ∧ u.line ≤ D'.endLine ∧
      resolveUsage ix imp u ≠ some D' := by
  obtain ⟨D', h⟩ := ownDefAt_of_mem hD hname ⟨hfile, hlo, hhi⟩
  obtain ⟨hn, hs⟩ := ownDefAt_some h
  exact ⟨D', h, hn.2, hs.1, hs.2.1, hs.2.2, (C02_param ix imp D' u h).2⟩

/-- outside every same-named fixture's lines a usage resolves like any other -/
theorem C02_plain_usage (ix : List Def) (imp : Path → String → Bool) (u : Usage)
    (h : ownDefAt ix u.file u.line u.name = none) :
    resolveUsage ix imp u = resolve ix imp u.file u.name := by
  simp [resolveUsage, h]

end PLS
