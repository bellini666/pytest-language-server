/-
  C03 — the recorded yield line is the FIRST yield of the body in source order.

  `stmtYields` / `bodyYields` are the specification: the lines of ALL statement-level yields of a body
  (one entry per expression that yields, by `yieldInExpr`), in the order the blocks of a compound statement
  appear in the source text.
-/
import PLS.Props.C03
namespace PLS

mutual
  def stmtYields : Stmt → List Nat
    | .expr e _ => (yieldInExpr e).toList
    | .assign _ v _ => (yieldInExpr v).toList
    | .augAssign _ v _ => (yieldInExpr v).toList
    | .annAssign _ v _ => (yieldInOpt v).toList
    | .return_ v _ => (yieldInOpt v).toList
    | .if_ _ b o _ => bodyYields b ++ bodyYields o
    | .with_ _ _ _ b _ => bodyYields b
    | .try_ b h o f _ => bodyYields b ++ (bodyYields h ++ (bodyYields o ++ bodyYields f))
    | .for_ _ _ _ b o _ => bodyYields b ++ bodyYields o
    | .while_ _ b o _ => bodyYields b ++ bodyYields o
    | _ => []
  def bodyYields : List Stmt → List Nat
    | [] => []
    | s :: ss => stmtYields s ++ bodyYields ss
end

theorem orElse_eq_head?_append {α} {a b : Option α} {l m : List α} (ha : a = l.head?) (hb : b = m.head?) :
    a.orElse (fun _ => b) = (l ++ m).head? := by
  rw [ha, hb, List.head?_append, Option.orElse_eq_or]

mutual
  theorem C03_yield_in_stmt_is_first : (s : Stmt) → yieldInStmt s = (stmtYields s).head? := by
    intro s
    cases s with
    | if_ _ b o _ | for_ _ _ _ b o _ | while_ _ b o _ =>
      exact orElse_eq_head?_append (C03_yield_line_is_first b) (C03_yield_line_is_first o)
    | with_ _ _ _ b _ => exact C03_yield_line_is_first b
    | try_ b h o f _ =>
      exact orElse_eq_head?_append (C03_yield_line_is_first b) (orElse_eq_head?_append (C03_yield_line_is_first h)
        (orElse_eq_head?_append (C03_yield_line_is_first o) (C03_yield_line_is_first f)))
    | expr | assign | augAssign | annAssign | return_ => exact Option.head?_toList.symm
    | _ => rfl
  /-- **C03 (yield line).** The yield line recorded for a fixture is the first entry of the source-order
      enumeration of the body's statement-level yields — for every body, nested to any depth. -/
  theorem C03_yield_line_is_first : (body : List Stmt) → yieldLine body = (bodyYields body).head?
    | [] => rfl
    | s :: ss => orElse_eq_head?_append (C03_yield_in_stmt_is_first s) (C03_yield_line_is_first ss)
end

theorem C03_generator_iff_some_yield (body : List Stmt) : (yieldLine body).isSome = !(bodyYields body).isEmpty := by
  rw [C03_yield_line_is_first]
  cases bodyYields body <;> rfl

/-- non-vacuity, and the order that matters: the handler's yield (line 4) precedes that of `else` (line 6) in the
    source and is the one recorded; a visitor that walked `else` before the handlers would return 6 -/
example :
    let tryStmt : Stmt := .try_ [.other ⟨2, 8, 2, 12⟩]
        [.expr (.yield [] ⟨4, 8, 4, 13⟩) ⟨4, 8, 4, 13⟩]
        [.expr (.yield [] ⟨6, 8, 6, 13⟩) ⟨6, 8, 6, 13⟩] [] ⟨1, 4, 6, 13⟩
    bodyYields [tryStmt] = [4, 6] ∧ yieldLine [tryStmt] = some 4 :=
  ⟨rfl, rfl⟩

end PLS
