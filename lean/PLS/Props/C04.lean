/-
  C04 — find-references is the exact inverse of go-to-definition.
-/
import PLS.Lemmas.Order
namespace PLS

/-- **C04 (inverse).** A usage is listed under `D` iff it is recorded in the reverse index and
    resolving it lands on `D` — the very function navigation uses (`C01_goto_is_resolveUsage`). -/
theorem C04_inverse (ix : List Def) (imp : Path → String → Bool) (ubf : List Usage) (D : Def) (u : Usage) :
    u ∈ refsFor ix imp ubf D ↔ u ∈ ubf ∧ resolveUsage ix imp u = some D := by
  unfold refsFor
  simp only [List.mem_filter, beq_iff_eq]
  constructor
  · rintro ⟨⟨hu, _⟩, hr⟩; exact ⟨hu, hr⟩
  · rintro ⟨hu, hr⟩
    exact ⟨⟨hu, (resolveUsage_mem hr).2.symm⟩, hr⟩

/-- **C04 (unresolved usages are listed nowhere).** -/
theorem C04_unresolved (ix : List Def) (imp : Path → String → Bool) (ubf : List Usage) (u : Usage)
    (h : resolveUsage ix imp u = none) : ∀ D, u ∉ refsFor ix imp ubf D := by
  intro D hm
  cases h.symm.trans ((C04_inverse ix imp ubf D u).mp hm).2

/-- **C04 (a usage is listed under at most one definition).** -/
theorem C04_functional (ix : List Def) (imp : Path → String → Bool) (ubf : List Usage) (u : Usage)
    (D D' : Def) (h : u ∈ refsFor ix imp ubf D) (h' : u ∈ refsFor ix imp ubf D') : D = D' := by
  have a := ((C04_inverse ix imp ubf D u).mp h).2
  have b := ((C04_inverse ix imp ubf D' u).mp h').2
  rw [a] at b
  exact Option.some.inj b

/-- **C04 (no usage listed twice)** — provided the reverse index holds each usage once. -/
theorem C04_nodup (ix : List Def) (imp : Path → String → Bool) (ubf : List Usage) (D : Def)
    (h : ubf.Nodup) : (refsFor ix imp ubf D).Nodup := by
  unfold refsFor
  exact (h.filter _).filter _

/-- **C04 (the CLI counter of `(file, name)` counts exactly the usages resolving into that file
    under that name)** — the code-lens count is `(refsFor …).length` by definition of the handler. -/
theorem C04_cli_count (ix : List Def) (imp : Path → String → Bool) (us : List Usage) (file : Path) (n : String) :
    cliCount ix imp us file n =
      (us.filter (fun u => match resolveUsage ix imp u with
        | some d => d.file == file && u.name == n
        | none => false)).length := rfl

/-- when `(file, name)` identifies one definition `D`, the CLI counter is the number of
    references of `D` (over the same usage list). -/
theorem C04_cli_count_eq_refs (ix : List Def) (imp : Path → String → Bool) (us : List Usage) (D : Def)
    (huniq : ∀ e ∈ ix, e.name = D.name → e.file = D.file → e = D) :
    cliCount ix imp us D.file D.name = (refsFor ix imp us D).length := by
  unfold cliCount refsFor
  rw [List.filter_filter]
  refine congrArg List.length (List.filter_congr fun u _ => ?_)
  cases hr : resolveUsage ix imp u with
  | none => rfl
  | some d =>
    -- `d` is named like `u`, so `(d.file, u.name)` is `d`'s key
    have hm := resolveUsage_mem hr
    rw [Bool.eq_iff_iff]
    simp only [Bool.and_eq_true, beq_iff_eq, Option.some.injEq]
    exact ⟨fun h => ⟨huniq d hm.1 (hm.2.trans h.2) h.1, h.2⟩, fun h => ⟨h.1 ▸ rfl, h.2⟩⟩

/-- **C04 (a recorded usage is found from its own position, wherever it stands in the file's list).** The position
    lookup searches the WHOLE usage list of the file: if some recorded usage covers the cursor (its line, its name under
    the cursor, its columns), a usage covering the cursor is returned — no assumption that the list is in source order
    (the analyzer records a function's `usefixtures` names before its `parametrize` names, whatever their lines). -/
theorem C04_usage_found_anywhere (us : List Usage) (line : Nat) (word : String) (col : Nat) (u : Usage)
    (hu : u ∈ us) (hl : u.line = line) (hn : u.name = word) (hs : u.startChar ≤ col) (he : col < u.endChar) :
    ∃ u', usageAt us line word col = some u' ∧ u' ∈ us ∧ u'.line = line ∧ u'.name = word ∧
      u'.startChar ≤ col ∧ col < u'.endChar := by
  obtain ⟨u', h⟩ := usageAt_of_mem hu ⟨hl, hn, hs, he⟩
  exact ⟨u', h, usageAt_some h⟩

/-- … and the answer does not depend on the order of the list when the covering usage is unique -/
theorem C04_usage_lookup_order_independent (us us' : List Usage) (line : Nat) (word : String) (col : Nat) (u : Usage)
    (hperm : us.Perm us') (hu : u ∈ us) (hl : u.line = line) (hn : u.name = word) (hs : u.startChar ≤ col) (he : col < u.endChar)
    (huniq : ∀ v ∈ us, v.line = line → v.name = word → v.startChar ≤ col → col < v.endChar → v = u) :
    usageAt us line word col = some u ∧ usageAt us' line word col = some u := by
  obtain ⟨a, ha, ham, h1, h2, h3, h4⟩ := C04_usage_found_anywhere us line word col u hu hl hn hs he
  obtain ⟨b, hb, hbm, g1, g2, g3, g4⟩ := C04_usage_found_anywhere us' line word col u (hperm.mem_iff.mp hu) hl hn hs he
  rw [ha, hb, huniq a ham h1 h2 h3 h4, huniq b (hperm.mem_iff.mpr hbm) g1 g2 g3 g4]
  exact ⟨rfl, rfl⟩

end PLS
