/-
  C04 at the handler level (`Model/Lsp.lean`): the code lens, `textDocument/references` and
  `callHierarchy/incomingCalls` are computed from ONE list `refs`, `find_references_for_definition`
  of the definition.  So the three numbers the property speaks of are `|refs|`, `|refs'|` and
  `1 + |refs'|`, `refs'` the references off the declaration line: all of `refs` whenever no
  reference sits on that line.
-/
import PLS.Props.C04
import PLS.Model.Lsp
namespace PLS
open Index

/-- what `hIncomingCalls` and `hReferences` list of `d`'s references -/
def offDecl (d : Def) (refs : List Usage) : List Usage :=
  refs.filter (fun u => !(u.file == d.file && u.line == d.line))

/-- **incoming calls = the references off the declaration line**, one entry each -/
theorem C04_incoming_calls (st : Index) (f : Path) (name : String) (d : Def)
    (hd : (defsOf st.defs name).find? (fun d => d.file == f) = some d) :
    ∃ l, (st.hIncomingCalls f name).1 = some l ∧ l.length = (offDecl d (st.refsForSt d).1).length := by
  unfold hIncomingCalls
  rw [hd]
  exact ⟨_, rfl, List.length_map _⟩

/-- **references = the declaration, then the references off the declaration line** -/
theorem C04_references (st st' : Index) (f : Path) (line0 col : Nat) (name : String) (d : Def)
    (hn : st.fixtureAt f line0 col = some name) (hg : st.goto f line0 col = (some d, st')) :
    ∃ l, (st.hReferences f line0 col).1 = some l ∧
      l.head? = some (pointLoc d.file (toLsp d.line)) ∧
      l.length = 1 + (offDecl d (st'.refsForSt d).1).length := by
  simp only [hReferences, hn, hg, Option.isNone_some, Bool.and_false, Bool.false_eq_true, if_false]
  refine ⟨_, rfl, rfl, ?_⟩
  simp only [filterMap_ite_none, List.length_append, List.length_cons, List.length_nil,
    List.length_map, offDecl]

/-- **the lens counts the references**: every lens of a file is `(line, |references|, column)` of a
    non-third-party definition of that file, the references taken on some state of the same index
    (the handler threads the memo tables through; `refsForSt` does not depend on them when they are
    coherent — C07) -/
theorem C04_lens_counts (st : Index) (f : Path) :
    ∀ e ∈ (st.hCodeLens f).1, ∃ d st0, d ∈ st.defs ∧ d.file = f ∧ d.thirdParty = false ∧
      e = (toLsp d.line, (Index.refsForSt st0 d).1.length, d.startChar) := by
  unfold hCodeLens
  refine List.foldlRecOn (motive := fun acc : List (Nat × Nat × Nat) × Index => ∀ e ∈ acc.1,
    ∃ d st0, d ∈ st.defs ∧ d.file = f ∧ d.thirdParty = false ∧
      e = (toLsp d.line, (Index.refsForSt st0 d).1.length, d.startChar))
    _ _ (fun e he => absurd he List.not_mem_nil) fun acc hacc d hd e he => ?_
  rcases List.mem_append.mp he with he | he
  · exact hacc e he
  · have := List.mem_filter.mp hd
    simp only [Bool.and_eq_true, beq_iff_eq, Bool.not_eq_true'] at this
    exact ⟨d, acc.2, this.1, this.2.1, this.2.2, List.mem_singleton.mp he⟩

end PLS
