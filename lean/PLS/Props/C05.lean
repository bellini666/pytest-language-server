/-
  C05 — all features agree on which definition a name denotes.
-/
import PLS.Lemmas.Order
namespace PLS

theorem mem_dedup {l : List String} {a : String} : a ∈ dedup l ↔ a ∈ l := by
  fun_induction dedup l with
  | case1 => exact .rfl
  | case2 x xs h ih => -- `x` recurs in `xs`: dropped
    rw [ih, List.mem_cons]
    exact ⟨.inr, fun h' => h'.elim (fun e => e ▸ List.contains_iff_mem.mp h) id⟩
  | case3 x xs h ih => -- `x` is kept
    rw [List.mem_cons, List.mem_cons, ih]

theorem nodup_dedup (l : List String) : (dedup l).Nodup := by
  fun_induction dedup l with
  | case1 => exact .nil
  | case2 x xs h ih => exact ih -- `x` is dropped
  | case3 x xs h ih => -- `x` is kept: not in `xs`
    exact List.nodup_cons.mpr ⟨fun hm => h (List.contains_iff_mem.mpr (mem_dedup.mp hm)), ih⟩

theorem insertByName_perm : ∀ (d : Def) (l : List Def), (insertByName d l).Perm (d :: l) :=
  perm_insert (c := fun d e => decide (d.name < e.name)) (fun _ => rfl) fun _ _ _ => by
    simp only [insertByName, decide_eq_true_eq]

theorem sortByName_perm (l : List Def) : (sortByName l).Perm l :=
  perm_foldr_insert insertByName_perm l

theorem availWalk_eq_walkUp (ds : List Def) (imp : Path → Bool) (dirs : List Path) :
    availWalk ds imp dirs = walkUp ds (fun _ => true) imp dirs := by
  induction dirs with
  | nil => rfl
  | cons dir rest ih =>
    simp only [availWalk, walkUp, Bool.and_true, ih, find?_true]

/-- **C05 (the view's entry is the one navigation selects).** For every index, file and name: when
    the import test of the view agrees with the resolver's (it is the same test since 2cb3f1f), the
    entry `compute_available_fixtures` keeps for `n` is exactly what `find_closest_definition`
    resolves `n` to from that file — the last definition in the file itself, else the nearest
    conftest's own or imported one, else a plugin's, else a third-party one. -/
theorem C05_pick_is_resolve (ix : List Def) (cimp imp : Path → String → Bool) (f : Path) (n : String)
    (horacle : ∀ c, cimp c n = imp c n) :
    availPick ix cimp f n = resolve ix imp f n := by
  unfold availPick resolve resolveF
  simp only [Bool.and_true]
  rw [availWalk_eq_walkUp, funext horacle]

theorem availPick_name {ix : List Def} {cimp : Path → String → Bool} {f : Path} {n : String} {d : Def}
    (h : availPick ix cimp f n = some d) : d ∈ ix ∧ d.name = n :=
  resolve_mem (C05_pick_is_resolve ix cimp cimp f n (fun _ => rfl) ▸ h)

/-- **C05 (one entry per name).** The per-file view never lists a fixture name twice. -/
theorem C05_names_nodup (ix : List Def) (cimp : Path → String → Bool) (f : Path) :
    ((available ix cimp f).map (·.name)).Nodup := by
  refine ((sortByName_perm _).map _).nodup_iff.mpr ?_
  rw [List.map_filterMap]
  -- a pick for `n` is named `n`, and the names asked for are distinct
  refine List.Pairwise.filterMap _ (fun n m hnm a ha b hb => ?_) (nodup_dedup _)
  obtain ⟨d, hd, rfl⟩ := Option.map_eq_some_iff.mp ha
  obtain ⟨e, he, rfl⟩ := Option.map_eq_some_iff.mp hb
  rwa [(availPick_name hd).2, (availPick_name he).2]

/-- every entry of the view is the per-name pick, and every name with a pick has an entry -/
theorem C05_mem_available (ix : List Def) (cimp : Path → String → Bool) (f : Path) (d : Def) :
    d ∈ available ix cimp f ↔ d ∈ ix ∧ availPick ix cimp f d.name = some d := by
  unfold available
  rw [(sortByName_perm _).mem_iff, List.mem_filterMap]
  constructor
  · rintro ⟨n, _, hp⟩
    obtain ⟨hd, rfl⟩ := availPick_name hp
    exact ⟨hd, hp⟩
  · rintro ⟨hd, hp⟩
    exact ⟨d.name, mem_dedup.mpr (List.mem_map.mpr ⟨d, hd, rfl⟩), hp⟩

/-- the full statement -/
def C05_statement : Prop :=
  ∀ (ix : List Def) (imp : Path → String → Bool) (f : Path) (n : String),
    availPick ix imp f n = resolve ix imp f n

namespace C05cx
def d1 : Def :=
  { name := "foo", file := ["test_a.py"], line := 3, endLine := 4, startChar := 4,
    endChar := 7, docstring := none, returnType := none, thirdParty := false, plugin := false,
    deps := [], scope := .function, yieldLine := none, autouse := false }
def d2 : Def := { d1 with line := 7, endLine := 8 }
end C05cx

/-- **`C05_statement` holds** (it failed before 48a0862: a name defined twice in one file — the
    view listed the first definition, navigation goes to the last; `corpus/C05/e2_twice.case`). -/
theorem C05_statement_holds : C05_statement :=
  fun ix imp f n => C05_pick_is_resolve ix imp imp f n (fun _ => rfl)

open C05cx in
/-- a name defined twice in one file: the view and navigation both answer the LAST definition -/
example : availPick [d1, d2] (fun _ _ => false) ["test_a.py"] "foo" = some d2 ∧
    resolve [d1, d2] (fun _ _ => false) ["test_a.py"] "foo" = some d2 := by
  decide +kernel

example : availPick [C05cx.d1, { C05cx.d1 with file := ["conftest.py"] }] (fun _ _ => false) ["test_a.py"] "foo"
    = resolve [C05cx.d1, { C05cx.d1 with file := ["conftest.py"] }] (fun _ _ => false) ["test_a.py"] "foo" :=
  C05_pick_is_resolve _ _ _ _ _ (fun _ => rfl)

end PLS
