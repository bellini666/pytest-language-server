/-
  C05 at the handler level (`Model/Lsp.lean`, tied to the real handlers by `tools/plsv/wire.py`):
  go-to-definition, go-to-implementation and call-hierarchy preparation are readings of ONE lookup,
  `find_fixture_definition` (`goto`) or its extension `find_fixture_or_definition_at_position`
  (`gotoOrDef`).
-/
import PLS.Model.Lsp
namespace PLS
open Index

/-- `find_fixture_or_definition_at_position` extends `find_fixture_definition` -/
theorem C05_gotoOrDef_extends_goto (st st' : Index) (f : Path) (line0 col : Nat) (d : Def)
    (h : st.goto f line0 col = (some d, st')) : st.gotoOrDef f line0 col = (some d, st') := by
  unfold gotoOrDef
  rw [h]

/-- **C05 (one definition behind four requests).** Wherever go-to-definition finds a definition
    `d`: `textDocument/definition` points at `d`'s line, `textDocument/implementation` at `d`'s
    yield line (or `def` line), `textDocument/prepareCallHierarchy` returns the item of `d`, and
    the hover text is `d`'s documentation — the same `d` for all of them. -/
theorem C05_handlers_one_definition (st st' : Index) (f : Path) (line0 col : Nat) (d : Def)
    (h : st.goto f line0 col = (some d, st')) :
    st.hDefinition f line0 col = (some (pointLoc d.file (toLsp d.line)), st') ∧
    st.hImplementation f line0 col =
      (some (pointLoc d.file (toLsp (match d.yieldLine with | some y => y | none => d.line))), st') ∧
    st.hPrepareCallHierarchy f line0 col =
      (some { name := d.name, range := ⟨d.file, toLsp d.line, 0, toLsp d.line, d.endChar⟩,
              selection := spanLoc d.file (toLsp d.line) d.startChar d.endChar,
              detail := fixtureDetail d }, st') := by
  have hg := C05_gotoOrDef_extends_goto st st' f line0 col d h
  refine ⟨?_, ?_, ?_⟩
  · unfold hDefinition; rw [h]
  · unfold hImplementation; rw [hg]; rfl
  · unfold hPrepareCallHierarchy; rw [hg]

/-- … and where go-to-definition finds nothing, it answers nothing (never a guess) -/
theorem C05_definition_none (st st' : Index) (f : Path) (line0 col : Nat)
    (h : st.goto f line0 col = (none, st')) : st.hDefinition f line0 col = (none, st') := by
  unfold hDefinition; rw [h]

end PLS
