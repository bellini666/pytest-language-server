/-
  C06 — index state depends on current contents only, not on edit history.
-/
import PLS.Lemmas.History
namespace PLS
open Index

/-- **C06 (an unparsable version changes nothing but the cached text and the memo version).** The
    fixtures and usages of the last valid version stay in effect - and so do its imports: the
    cached entry carries the record of the last version that parsed (`Index.carry`); the
    version-keyed memos are invalidated. -/
theorem C06_invalid_keeps (pfx : Path) (cl : Bool) (st : Index) (f : Path) (v : Version)
    (h : v.parsed = none) :
    analyze pfx cl st f v =
      ({ st with cache := ainsert st.cache f (carry st f v), epoch := st.epoch + 1, version := st.version + 1 }, false) :=
  analyze_none h

theorem invalid_keeps_effRec (pfx : Path) (cl : Bool) (st : Index) (f : Path) (v old : Version) (fr : FileRec)
    (h : v.parsed = none) (hc : alookup st.cache f = some old) (hr : old.effRec = some fr) (g : Path) :
    ((analyze pfx cl st f v).1.content g).bind Version.effRec = (st.content g).bind Version.effRec := by
  rw [analyze_none h]
  unfold content
  dsimp only
  rw [alookup_ainsert]
  by_cases hg : g = f
  · subst g
    simp only [Version.effRec] at hr
    simp [carry, Version.effRec, h, hc, hr]
  · rw [if_neg hg]

/-- **C06 (the imports of the last valid version stay in effect, E19 repaired).** After an edit
    that does not parse, the record the file's imports are read from is the one they were read
    from before the edit - whether that was the previous text's own or one carried already. -/
theorem C06_invalid_keeps_imports (pfx : Path) (cl : Bool) (st : Index) (f : Path) (v old : Version) (fr : FileRec)
    (h : v.parsed = none) (hc : alookup st.cache f = some old) (hr : old.effRec = some fr) :
    ((analyze pfx cl st f v).1.content f).bind Version.effRec = some fr := by
  rw [invalid_keeps_effRec pfx cl st f v old fr h hc hr, content, hc]
  exact hr

/-- … and for a document that is sent unparsable the first time (nothing cached for it), the file
    as it is on disk stands in -/
theorem C06_invalid_first_uses_disk (pfx : Path) (cl : Bool) (st : Index) (f : Path) (v : Version)
    (h : v.parsed = none) (hc : alookup st.cache f = none) :
    ((analyze pfx cl st f v).1.content f).bind Version.effRec = (alookup st.disk f).bind (fun d => d.parsed) := by
  simp [analyze_none h, content, alookup_ainsert, carry, Version.effRec, h, hc]

/-- **C06 (one re-analysis replaces exactly the file's slice of `definitions`).** Whatever the
    history that led to `st`, after a valid version of `f` is analysed the definitions are: those
    of the other files, untouched and in their order, followed by the new version's, in order. -/
theorem C06_defs_after_analyze (pfx : Path) (st : Index) (f : Path) (v : Version) (fr : FileRec)
    (hv : v.parsed = some fr) (hinv : DefsTracked st) :
    (analyze pfx true st f v).1.defs =
      st.defs.filter (fun d => d.file != f) ++ (eventDefs fr.events).map (stampDef pfx st f) := by
  rw [← cleanupDefs_defs st f hinv]
  exact congrArg Index.defs (analyze_eq hv)

/-- **C06 (… and of the reverse usage index).** -/
theorem C06_usages_after_analyze (pfx : Path) (cl : Bool) (st : Index) (f : Path) (v : Version) (fr : FileRec)
    (hv : v.parsed = some fr) :
    (analyze pfx cl st f v).1.ubf = st.ubf.filter (fun u => u.file != f) ++ eventUsages fr.events :=
  congrArg Index.ubf (analyze_eq hv)

/-- **C06 (the bookkeeping invariant holds in every reachable state).** If every definition is
    tracked in the reverse index of its file, it still is after any analysis (valid or not) whose
    recorded definitions carry the analysed file's path. -/
theorem C06_inv_preserved (pfx : Path) (st : Index) (f : Path) (v : Version)
    (hinv : DefsTracked st) (hfor : ∀ fr, v.parsed = some fr → EventsFor f fr.events) :
    DefsTracked (analyze pfx true st f v).1 := by
  cases hv : v.parsed with
  | none => rw [analyze_none hv]; exact hinv
  | some fr =>
    intro d hd
    rw [C06_defs_after_analyze pfx st f v fr hv hinv, List.mem_append, List.mem_filter, List.mem_map] at hd
    rw [← mem_getD_alookup, analyze_eq hv]
    dsimp only
    rw [addNames_listed, if_pos rfl, cleanupDefs_listed]
    rcases hd with ⟨hd, hne⟩ | ⟨d0, hd0, rfl⟩
    · -- a definition of another file
      exact Or.inl ⟨by simpa using hne, mem_getD_alookup.mpr (hinv d hd)⟩
    · -- a new definition
      exact Or.inr ⟨hfor fr hv d0 hd0, d0, hd0, rfl⟩

/-- files and versions in the order they were sent -/
abbrev History := List (Path × Version)

def runHistory (pfx : Path) (st : Index) (h : History) : Index :=
  h.foldl (fun st p => (analyze pfx true st p.1 p.2).1) st

/-- what the definitions are after a history, computed from the history alone -/
def histDefs (pfx : Path) (env : Index) : List Def → History → List Def
  | acc, [] => acc
  | acc, (f, v) :: rest =>
    match v.parsed with
    | none => histDefs pfx env acc rest
    | some fr =>
      histDefs pfx env (acc.filter (fun d => d.file != f) ++ (eventDefs fr.events).map (stampDef pfx env f)) rest

theorem runHistory_env (pfx : Path) (st : Index) (h : History) : sameEnv (runHistory pfx st h) st := by
  induction h generalizing st with
  | nil => exact ⟨rfl, rfl, rfl⟩
  | cons p rest ih => exact sameEnv_trans (ih _) (analyze_env pfx true st p.1 p.2)

/-- `C06_history_defs` for any environment the state agrees with: the form the induction needs -/
theorem history_defs (pfx : Path) (env st : Index) (h : History) (henv : sameEnv st env) (hinv : DefsTracked st)
    (hfor : ∀ p ∈ h, ∀ fr, p.2.parsed = some fr → EventsFor p.1 fr.events) :
    (runHistory pfx st h).defs = histDefs pfx env st.defs h ∧ DefsTracked (runHistory pfx st h) := by
  induction h generalizing st with
  | nil => exact ⟨rfl, hinv⟩
  | cons p rest ih =>
    obtain ⟨f, v⟩ := p
    have := ih (analyze pfx true st f v).1 (sameEnv_trans (analyze_env pfx true st f v) henv)
      (C06_inv_preserved pfx st f v hinv (hfor _ List.mem_cons_self))
      (fun q hq => hfor q (List.mem_cons_of_mem _ hq))
    refine ⟨this.1.trans ?_, this.2⟩
    simp only [histDefs]
    cases hv : v.parsed with
    | none => rw [analyze_none hv]
    | some fr =>
      rw [C06_defs_after_analyze pfx st f v fr hv hinv, List.map_congr_left fun d _ => stampDef_env henv f d]

/-- **C06 (history independence of `definitions`).** After ANY history of open/change
    notifications, the definitions are a function of the history's valid versions only — each
    file contributes the definitions of its latest valid version, superseded versions contribute
    nothing, nothing is duplicated. -/
theorem C06_history_defs (pfx : Path) (st : Index) (h : History) (hinv : DefsTracked st)
    (hfor : ∀ p ∈ h, ∀ fr, p.2.parsed = some fr → EventsFor p.1 fr.events) :
    (runHistory pfx st h).defs = histDefs pfx st st.defs h ∧ DefsTracked (runHistory pfx st h) :=
  history_defs pfx st st h ⟨rfl, rfl, rfl⟩ hinv hfor

/-- **C06 / C04 (mirror).** After any analysis the reverse usage index restricted to the analysed
    file is exactly the list of usages recorded for it: `usages` and `usage_by_fixture` never
    drift apart. -/
theorem C06_mirror (pfx : Path) (cl : Bool) (st : Index) (f : Path) (v : Version) (fr : FileRec)
    (hv : v.parsed = some fr) (hfile : ∀ u ∈ eventUsages fr.events, u.file = f) :
    (analyze pfx cl st f v).1.ubf.filter (fun u => u.file == f) = eventUsages fr.events := by
  rw [C06_usages_after_analyze pfx cl st f v fr hv, List.filter_append, filter_beq_filter_bne Usage.file f f,
    if_pos (beq_iff_eq.mpr rfl), List.nil_append, List.filter_eq_self.mpr fun u hu => beq_iff_eq.mpr (hfile u hu)]

end PLS
