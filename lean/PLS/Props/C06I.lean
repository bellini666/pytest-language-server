/-
  C06 — an edit that does not parse leaves what every file provides through its imports as it was
  (the repaired E19, at the level of the import closure).

  `analyze` of an unparsable text keeps the recorded fixtures, puts the text into the cache together
  with the record of the last version that parsed (`Index.carry`) and bumps the version: the import
  graph (`ImpC.succs`) stays, hence the provided names (`ImpC.Prov`) and, by the closure theorem,
  every answer of `get_imported_fixtures`.
-/
import PLS.Props.C14I
import PLS.Props.C06
namespace PLS
namespace BrokenEdit
open Index ImpC ScanC

theorem broken_fs (pfx : Path) (cl : Bool) (st : Index) (f : Path) (v : Version) (h : v.parsed = none)
    (hk : ahas st.cache f = true) : SameFS st (analyze pfx cl st f v).1 := by
  rw [analyze_none h]
  exact { disk := rfl, dirs := rfl, sp := rfl, ed := rfl, ex := ex_ainsert _ (by rw [hk, Bool.or_true]) }

end BrokenEdit

open BrokenEdit ImpC ScanC in
/-- **C06 (an edit that does not parse changes nothing any file provides).** If `f` was cached with
    an effective record (its own, or one carried), then after the analysis of a text of `f` that
    does not parse every file provides through its imports exactly what it provided before. -/
theorem C06_broken_edit_keeps_provides (pfx : Path) (cl : Bool) (st : Index) (f : Path) (v old : Version) (fr : FileRec)
    (h : v.parsed = none) (hc : alookup st.cache f = some old) (hr : old.effRec = some fr) (g : Path) (n : String) :
    Prov (Index.analyze pfx cl st f v).1 g n ↔ Prov st g n := by
  refine prov_congr (fun x => ?_) (fun t => ?_) g n
  · rw [succs_eq_effRec, succs_eq_effRec, resolveModule_same (broken_fs pfx cl st f v h (ahas_of_alookup hc)),
      invalid_keeps_effRec pfx cl st f v old fr h hc hr]
  · rw [analyze_none h]; rfl

open BrokenEdit ImpC in
/-- **C06 / C14 (… and nothing `get_imported_fixtures` answers).** On an index whose imports are star
    imports / `pytest_plugins` entries, with a coherent memo table: after the analysis of a text
    of `f` that does not parse, the names answered for EVERY file are the names answered before -
    the behaviour the E19 repair restored, for every import graph. -/
theorem C06_broken_edit_keeps_imported (pfx : Path) (cl : Bool) (st : Index) (f : Path) (v old : Version) (fr : FileRec)
    (hstar : StarOnly st) (hcoh : Coh st) (hb : MemoBounded st)
    (h : v.parsed = none) (hc : alookup st.cache f = some old) (hr : old.effRec = some fr) (g : Path) (m : String) :
    m ∈ (Index.imported (Index.analyze pfx cl st f v).1.fuelFor (Index.analyze pfx cl st f v).1 g []).1 ↔
    m ∈ (Index.imported st.fuelFor st g []).1 := by
  have hstar' : StarOnly (Index.analyze pfx cl st f v).1 := hstar.congr (invalid_keeps_effRec pfx cl st f v old fr h hc hr)
  have hcoh' := (C14_coherent_after_analysis pfx cl st f v hb).1
  rw [C14_imported_is_closure _ hstar' hcoh' g m, C14_imported_is_closure st hstar hcoh g m]
  exact C06_broken_edit_keeps_provides pfx cl st f v old fr h hc hr g m

end PLS
