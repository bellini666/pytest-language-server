/-
  C07 — caching, closing documents and cache eviction are invisible.

  The three memo tables of the implementation (`available_fixtures_cache`, `cycle_cache`,
  `imported_fixtures_cache`) share one pattern: a value stored together with the
  `definitions_version` it was computed at, returned as long as the version is unchanged.
  `Memo` is that pattern.
-/
import PLS.Model.Index
import PLS.Lemmas.List
namespace PLS

structure Memo (α : Type) where
  ver : Nat
  val : α

def memoRead {α : Type} (m : Option (Memo α)) (ver : Nat) (compute : α) : α × Option (Memo α) :=
  match m with
  | some e => if e.ver = ver then (e.val, m) else (compute, some ⟨ver, compute⟩)
  | none => (compute, some ⟨ver, compute⟩)

/-- `d` is the data state, `f` the memoised function -/
def Coherent {α δ : Type} (m : Option (Memo α)) (version : δ → Nat) (f : δ → α) (d : δ) : Prop :=
  ∀ e, m = some e → e.ver = version d → e.val = f d

theorem memoRead_coherent {α δ : Type} {m : Option (Memo α)} {version : δ → Nat} {f : δ → α} {d : δ}
    (h : Coherent m version f d) :
    (memoRead m (version d) (f d)).1 = f d ∧
    ∀ e, (memoRead m (version d) (f d)).2 = some e → e.ver = version d ∧ e.val = f d := by
  fun_cases memoRead m (version d) (f d) with
  | case1 e hv =>  -- a hit: the entry stays
    exact ⟨h e rfl hv, fun e' he' => by cases he'; exact ⟨hv, h e rfl hv⟩⟩
  | case2 | case3 =>  -- a stale entry / none: `compute` is stored
    exact ⟨rfl, fun e' he' => by cases he'; exact ⟨rfl, rfl⟩⟩

/-- **C07 (a coherent memo is invisible).** -/
theorem C07_memo_sound {α δ : Type} (m : Option (Memo α)) (version : δ → Nat) (f : δ → α) (d : δ)
    (h : Coherent m version f d) : (memoRead m (version d) (f d)).1 = f d :=
  (memoRead_coherent h).1

theorem C07_memo_read_coherent {α δ : Type} (m : Option (Memo α)) (version : δ → Nat) (f : δ → α) (d : δ)
    (h : Coherent m version f d) : Coherent (memoRead m (version d) (f d)).2 version f d :=
  fun e he _ => ((memoRead_coherent h).2 e he).2

/-- **C07 (coherence is preserved by every step that bumps the version whenever the memoised
    function's value changes)** — the discipline the caches need. -/
theorem C07_memo_coherent_step {α δ : Type} (m : Option (Memo α)) (version : δ → Nat) (f : δ → α) (d d' : δ)
    (h : Coherent m version f d)
    (hmono : ∀ e, m = some e → e.ver ≤ version d)
    (hbump : f d' ≠ f d → version d < version d') (hle : version d ≤ version d') :
    Coherent m version f d' := by
  intro e he hv
  -- an entry current at `d'` was current at `d` (`hmono`, `hle`), so there was no bump: the value is the same
  by_cases hf : f d' = f d
  · exact hf ▸ h e he (Nat.le_antisymm (hmono e he) (hv ▸ hle))
  · exact absurd (Nat.lt_of_lt_of_le (hbump hf) (hv ▸ hmono e he)) (Nat.lt_irrefl _)

/-- an interleaving of edits and queries, given as the data states at which the queries are made -/
def runReads {α δ : Type} (version : δ → Nat) (f : δ → α) :
    Option (Memo α) → List δ → List α × Option (Memo α)
  | m, [] => ([], m)
  | m, d :: ds =>
    let (a, m') := memoRead m (version d) (f d)
    let (as, m'') := runReads version f m' ds
    (a :: as, m'')

def Steps {δ : Type} (R : δ → δ → Prop) : δ → List δ → Prop
  | _, [] => True
  | a, b :: rest => R a b ∧ Steps R b rest

/-- **C07 (warm = cold for every interleaving of edits and queries)**, under the bump discipline:
    the answers read through the memo along any sequence of data states equal the recomputed ones. -/
theorem C07_warm_eq_cold {α δ : Type} (version : δ → Nat) (f : δ → α) (ds : List δ) (m : Option (Memo α)) (d0 : δ)
    (hcoh : Coherent m version f d0) (hmono : ∀ e, m = some e → e.ver ≤ version d0)
    (hchain : Steps (fun a b => version a ≤ version b ∧ (f b ≠ f a → version a < version b)) d0 ds) :
    (runReads version f m ds).1 = ds.map f := by
  induction ds generalizing m d0 with
  | nil => rfl
  | cons d rest ih =>
    simp only [runReads, List.map_cons]
    obtain ⟨⟨hle, hbump⟩, hrest⟩ : (_ ∧ _) ∧ _ := hchain
    have hcoh' := C07_memo_coherent_step m version f d0 d hcoh hmono hbump hle
    obtain ⟨hread, hentry⟩ := memoRead_coherent hcoh'
    rw [hread, ih _ d (C07_memo_read_coherent m version f d hcoh') (fun e he => Nat.le_of_eq (hentry e he).1) hrest]

/-- **the discipline is necessary (E3 before the repair).** If some step changes the memoised
    value without bumping the version, a warm read returns the stale value. -/
theorem C07_removal_without_bump_breaks :
    ∃ (version : Nat → Nat) (f : Nat → Nat) (m : Option (Memo Nat)),
      Coherent m version f 0 ∧ (memoRead m (version 1) (f 1)).1 ≠ f 1 :=
  ⟨fun _ => 7, fun d => d, some ⟨7, 0⟩, by intro e he _; simp at he; rw [← he], by simp [memoRead]⟩

open Index in
/-- the available-fixtures memo is an instance of the pattern: a hit returns the stored list -/
theorem C07_available_hit (st : Index) (f : Path) (l : List Def)
    (h : alookup st.availCache f = some (st.version, l)) : (st.availableSt f).1 = l := by
  unfold availableSt
  simp [h]

open Index in
/-- **C07 (closing a document never touches the index maps)**: only cached text and the two
    per-file memo entries go away. (What it does to *answers* through `file_cache` membership is
    E11, a recorded finding.) -/
theorem C07_close_keeps_index (st : Index) (f : Path) :
    (st.closeFile f).defs = st.defs ∧ (st.closeFile f).usages = st.usages ∧
    (st.closeFile f).ubf = st.ubf ∧ (st.closeFile f).fileDefs = st.fileDefs ∧
    (st.closeFile f).version = st.version := by
  simp [closeFile]

open Index in
/-- **C07 (pressure-driven eviction never touches the index maps either).**
    `evict_cache_if_needed` removes, for whichever files it picks, exactly the entries
    `cleanup_file_cache` removes; so for ANY evicted set the definitions, usages, reverse indexes
    and the version are unchanged. (Answers can still change through `file_cache` membership of a
    conftest — the same finding E11 as for closing.) -/
theorem C07_evict_keeps_index (st : Index) (evicted : List Path) :
    (evicted.foldl closeFile st).defs = st.defs ∧ (evicted.foldl closeFile st).usages = st.usages ∧
    (evicted.foldl closeFile st).ubf = st.ubf ∧ (evicted.foldl closeFile st).fileDefs = st.fileDefs ∧
    (evicted.foldl closeFile st).version = st.version := by
  simpa only [Prod.mk.injEq] using foldl_keeps (fun s : Index => (s.defs, s.usages, s.ubf, s.fileDefs, s.version))
    (step := closeFile) (fun _ _ => rfl) evicted st

end PLS
