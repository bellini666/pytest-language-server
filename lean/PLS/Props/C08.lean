/-
  C08 — answers do not depend on scan order, thread schedule or process run.

  The parallel scan's schedule affects the index only through the ORDER in which the per-file
  definition lists are merged into the per-name vectors (C09), so order independence is invariance
  of the answers under permutations of the definition list.
-/
import PLS.Lemmas.Order
import PLS.Props.C01
namespace PLS

/-- the full statement (no `Uniq`) -/
def C08_statement : Prop :=
  ∀ (ix ix' : List Def) (imp : Path → String → Bool) (f : Path) (n : String),
    ix.Perm ix' → resolve ix imp f n = resolve ix' imp f n

/-- **C08 (partial).** Under the uniqueness hypothesis `Uniq` (at most one candidate per file,
    per plugin class, per third-party class, and no import branch over several candidates), the
    answer is the same for every registration order. -/
theorem C08_resolve_perm (ix ix' : List Def) (imp : Path → String → Bool) (f : Path) (n : String)
    (hp : ix.Perm ix') (hu : Uniq ix imp n) : resolve ix imp f n = resolve ix' imp f n :=
  resolve_perm hp imp f n hu

/-- definitions of one name in one file with disjoint line ranges: the fixture a usage of its own
    name belongs to is order independent -/
theorem C08_ownDefAt_perm (ix ix' : List Def) (f : Path) (line : Nat) (n : String) (hp : ix.Perm ix')
    (hu : ∀ a ∈ ix, ∀ b ∈ ix, a.name = n → b.name = n → a.file = b.file →
      a.line ≤ line → line ≤ a.endLine → b.line ≤ line → line ≤ b.endLine → a = b) :
    ownDefAt ix f line n = ownDefAt ix' f line n := by
  unfold ownDefAt
  refine find?_perm_unique (hp.filter _) fun a ha b hb pa pb => ?_
  obtain ⟨ma, na⟩ := mem_defsOf.mp ha
  obtain ⟨mb, nb⟩ := mem_defsOf.mp hb
  obtain ⟨fa, la, ea⟩ := spans_iff.mp pa
  obtain ⟨fb, lb, eb⟩ := spans_iff.mp pb
  exact hu a ma b mb na nb (fa.trans fb.symm) la ea lb eb

/-- the same-file rule is order independent without any hypothesis when lines are distinct:
    the LAST definition in the file wins whatever the registration order. -/
theorem C08_same_file_last (ix : List Def) (imp : Path → String → Bool) (f : Path) (n : String) (d : Def)
    (h : resolve ix imp f n = some d) (hf : d.file = f) :
    ∀ e ∈ ix, e.name = n → e.file = f → e.line ≤ d.line :=
  resolve_last_in_file h hf

open C01cx in
/-- **`C08_statement` fails** (E1 seen as an order dependence): the two registration orders of the
    same two definitions give different answers through the import branch. -/
theorem C08_statement_false : ¬ C08_statement := fun h =>
  absurd (h ix [dA, dB] imp f "foo" (.swap dA dB [])) (by decide +kernel)

/-- non-vacuity of `Uniq`: two same-named definitions in different conftests, no imports -/
example : Uniq [C01cx.dB, { C01cx.dB with file := ["conftest.py"] }] (fun _ _ => false) "foo" := by
  constructor
  · intro a ha b hb _ _ hf
    simp at ha hb
    rcases ha with rfl | rfl <;> rcases hb with rfl | rfl <;> simp_all [C01cx.dB]
  · intro a ha b hb _ _ pa
    simp at ha
    rcases ha with rfl | rfl <;> simp [C01cx.dB] at pa
  · intro a ha b hb _ _ pa
    simp at ha
    rcases ha with rfl | rfl <;> simp [C01cx.dB] at pa
  · rintro ⟨c, hc⟩; simp at hc

end PLS
