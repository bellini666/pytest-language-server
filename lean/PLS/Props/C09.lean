/-
  C09 — concurrent analysis of different files is isolated.

  Model: `PLS.Model.Conc`.
  The hypotheses of the theorems are exactly what the correspondence check (`tools/plsv/props/c09.py`)
  establishes of the implementation's recorded operation programs: every thread works for a different
  file, and its program on a shared map has the shape `program olds news` (every `get_mut+retain` on a
  key is followed, before anything else of that thread on the map, by the conditional `remove_if` of
  the same key; then only `entry().push`).
-/
import PLS.Lemmas.Conc
namespace PLS.Conc

/-- **C09 (any schedule).** For threads of pairwise different files whose programs have the
    shape of the code, after ANY complete schedule: (1) no per-name vector is left empty
    ("dangling"); (2) what each file owns under every name is what its own analysis alone
    leaves there — nothing of it lost or duplicated by the others; (3) files not being analysed
    are untouched.  The right-hand sides do not mention the schedule. -/
theorem C09_any_schedule (s0 : Sys) (hnd : (s0.ts.map (·.file)).Nodup)
    (hwf : ∀ t ∈ s0.ts, WFProg t.prog) (hne : ∀ k, s0.m k ≠ some [])
    (sched : List Nat) (hdone : ∀ t ∈ (run s0 sched).ts, t.prog = []) :
    (∀ k, (run s0 sched).m k ≠ some []) ∧
    (∀ (i : Nat) (t0 : Thread), s0.ts[i]? = some t0 → ∀ k,
        projF t0.file (ents (run s0 sched).m k) =
          lrun t0.file (fun k => projF t0.file (ents s0.m k)) t0.prog k) ∧
    (∀ G, (∀ t ∈ s0.ts, t.file ≠ G) → ∀ k,
        projF G (ents (run s0 sched).m k) = projF G (ents s0.m k)) :=
  conc_final s0 hnd hwf hne sched hdone

def progLen (s : Sys) (j : Nat) : Nat := ((s.ts[j]?).map (·.prog.length)).getD 0

theorem progLen_eq {s : Sys} {j : Nat} {t : Thread} (h : s.ts[j]? = some t) : progLen s j = t.prog.length := by
  rw [progLen, h]; rfl

theorem progLen_stepSys (s : Sys) (i j : Nat) :
    progLen (stepSys s i) j = progLen s j - if i = j then 1 else 0 := by
  rcases stepSys_cases s i with ⟨e, hidle⟩ | ⟨t, ins, rest, hti, hp, _, hself, hothers⟩
  · rw [e]
    split
    · subst j  -- idle: thread `i` is absent or finished, `progLen s i = 0`
      cases hti : s.ts[i]? with
      | none => rw [progLen, hti]; rfl
      | some t => rw [progLen_eq hti, hidle t hti]; rfl
    · rfl
  · split
    · subst j
      rw [progLen_eq hself, progLen_eq hti, hp]; rfl
    · rename_i h; rw [progLen, hothers j h]; rfl

theorem progLen_run (s : Sys) (sched : List Nat) (j : Nat) :
    progLen (run s sched) j = progLen s j - sched.count j := by
  induction sched generalizing s with
  | nil => rfl
  | cons i r ih =>
    show progLen (run (stepSys s i) r) j = _
    rw [ih, progLen_stepSys, List.count_cons, Nat.sub_sub, Nat.add_comm]
    simp only [beq_iff_eq]  -- `count_cons` compares with `==`

/-- the schedule "thread after thread, each to completion, in this order" -/
def seqOf (s0 : Sys) (order : List Nat) : List Nat :=
  order.flatMap (fun i => List.replicate (progLen s0 i) i)

theorem count_seqOf (s0 : Sys) {order : List Nat} {j : Nat} (hj : j ∈ order) :
    progLen s0 j ≤ (seqOf s0 order).count j := by
  rw [seqOf, List.count_flatMap]
  have := le_sum_of_mem order (List.count j ∘ fun i => List.replicate (progLen s0 i) i) j hj
  rwa [Function.comp_apply, List.count_replicate_self] at this

theorem complete_of_count (s0 : Sys) (sched : List Nat)
    (h : ∀ j, j < s0.ts.length → progLen s0 j ≤ sched.count j) : ∀ t ∈ (run s0 sched).ts, t.prog = [] := by
  intro t ht
  obtain ⟨j, hj⟩ := List.mem_iff_getElem?.mp ht
  have hjl : j < (run s0 sched).ts.length := (List.getElem?_eq_some_iff.mp hj).1
  -- of `ts` along a run only the files are known (`run_files`): the length is taken from there
  rw [← List.length_map (f := (·.file)), run_files, List.length_map] at hjl
  have h0 := progLen_run s0 sched j
  rw [Nat.sub_eq_zero_of_le (h j hjl), progLen_eq hj] at h0
  exact List.eq_nil_of_length_eq_zero h0

theorem C09_sequential_complete (s0 : Sys) (order : List Nat)
    (hall : ∀ i, i < s0.ts.length → i ∈ order) :
    ∀ t ∈ (run s0 (seqOf s0 order)).ts, t.prog = [] :=
  complete_of_count s0 _ fun j hj => count_seqOf s0 (hall j hj)

theorem perm_of_proj {l1 l2 : List Ent} (h : ∀ G, projF G l1 = projF G l2) : l1.Perm l2 :=
  List.perm_iff_count.mpr fun a => by
    have own (l : List Ent) : (projF a.file l).count a = l.count a := List.count_filter (beq_iff_eq.mpr rfl)
    rw [← own l1, ← own l2, h a.file]

/-- **C09 (the statement).** Whatever the interleaving, the resulting maps are those of the
    sequential execution in ANY order `order` of the same per-file analyses: per name the same
    multiset of entries, each file's own entries in the same relative order, and no empty vector. -/
theorem C09_equals_sequential (s0 : Sys) (hnd : (s0.ts.map (·.file)).Nodup)
    (hwf : ∀ t ∈ s0.ts, WFProg t.prog) (hne : ∀ k, s0.m k ≠ some [])
    (sched : List Nat) (hdone : ∀ t ∈ (run s0 sched).ts, t.prog = [])
    (order : List Nat) (hall : ∀ i, i < s0.ts.length → i ∈ order) :
    (∀ G k, projF G (ents (run s0 sched).m k) = projF G (ents (run s0 (seqOf s0 order)).m k)) ∧
    (∀ k, (ents (run s0 sched).m k).Perm (ents (run s0 (seqOf s0 order)).m k)) ∧
    (∀ k, (run s0 sched).m k ≠ some []) := by
  have A := conc_final s0 hnd hwf hne sched hdone
  have B := conc_final s0 hnd hwf hne (seqOf s0 order) (C09_sequential_complete s0 order hall)
  have hproj : ∀ G k, projF G (ents (run s0 sched).m k) = projF G (ents (run s0 (seqOf s0 order)).m k) := by
    intro G k
    by_cases hG : ∃ t ∈ s0.ts, t.file = G
    · obtain ⟨t, ht, rfl⟩ := hG
      obtain ⟨i, hi⟩ := List.mem_iff_getElem?.mp ht
      rw [A.2.1 i t hi k, B.2.1 i t hi k]
    · have hG' : ∀ t ∈ s0.ts, t.file ≠ G := fun t ht e => hG ⟨t, ht, e⟩
      rw [A.2.2 G hG' k, B.2.2 G hG' k]
  exact ⟨hproj, fun k => perm_of_proj (fun G => hproj G k), A.1⟩

/-- file 0 empties `foo`, file 1 registers a `foo`, file 0 removes the key by `last "foo"` -/
def lossSys (last : Key → XInstr) : XSys :=
  { m := fun k => if k = "foo" then some [⟨0, 1⟩] else none,
    ts := [ { file := 0, flag := false, prog := [.base (.retain "foo"), last "foo"] },
            { file := 1, flag := false, prog := [.base (.push "foo" 7)] } ] }

/-- **C09 (the guard is necessary).** With an unconditional `remove` in step 3 the schedule
    0,1,0 loses file 1's new definition; with the conditional removal of the code it survives. -/
theorem C09_plain_remove_loses :
    (runX (lossSys XInstr.remove) [0, 1, 0]).m "foo" = none ∧
    (runX (lossSys (fun k => .base (.condRemove k))) [0, 1, 0]).m "foo" = some [⟨1, 7⟩] := by
  decide +kernel

/-! non-vacuity: a system meeting the hypotheses, with shared names and a last-definition removal -/

def demoSys : Sys :=
  { m := fun k => if k = "foo" then some [⟨0, 1⟩] else if k = "bar" then some [⟨0, 2⟩, ⟨1, 3⟩] else none,
    ts := [ { file := 0, flag := false, prog := program ["foo", "bar"] [("bar", 5)] },
            { file := 1, flag := false, prog := program ["bar"] [("foo", 7), ("bar", 8)] } ] }

example : (demoSys.ts.map (·.file)).Nodup ∧ (∀ t ∈ demoSys.ts, WFProg t.prog) ∧ (∀ k, demoSys.m k ≠ some []) := by
  refine ⟨by decide, ?_, ?_⟩
  · intro t ht
    simp only [demoSys, List.mem_cons, List.not_mem_nil, or_false] at ht
    rcases ht with rfl | rfl
    · exact Or.inl ⟨_, _, rfl⟩
    · exact Or.inl ⟨_, _, rfl⟩
  · intro k h
    unfold demoSys at h
    dsimp only at h
    split at h
    · cases h
    · split at h <;> cases h

end PLS.Conc
