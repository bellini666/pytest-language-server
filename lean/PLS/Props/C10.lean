/-
  C10 — editor buffers win over the background scan.

  Model: `PLS.Model.Conc10`.  The property's first sentence ("exactly once, whatever the relative
  timing") is false of the code (finding E9, `C10_scan_after_edit_duplicates`).  What holds of every
  interleaving is the bookkeeping invariant `Tracked`; from a tracked quiescent state one further
  notification leaves exactly the notified version's definitions for the file.
-/
import PLS.Model.Conc10
import PLS.Lemmas.List
namespace PLS.Conc10

/-- the keys a worker is about to take care of: still to be cleaned up, or pushed and about to be
    entered into the reverse index -/
def justifies : Pc → Key → Prop
  | .retain todo, k => k ∈ todo
  | .cond _ _ todo, k => k ∈ todo
  | .ins k' _, k => k' = k
  | _, _ => False

/-- the invariant of a run; the theorems state it of a system, as `Tracked` -/
def TrackedW (s : St) (ws : Nat → Worker) : Prop :=
  ∀ k e, e ∈ ents s.d k →
    k ∈ names s.fd e.file ∨ ∃ j, (ws j).file = e.file ∧ justifies (ws j).pc k

def Tracked (y : Sys) : Prop := TrackedW y.s y.ws

/-- `TrackedW` at quiescence, when no worker answers for anything -/
def Tr (s : St) : Prop := ∀ k e, e ∈ ents s.d k → k ∈ names s.fd e.file

/-! Every statement of C10 reads the two maps through `ents` and `names`, which do not tell an absent key
from an empty vector: at that level the flag of `cond` and the conditional removal are invisible.  One lemma
per operation follows; nothing after them unfolds `stepW`, `updD` or `updF`. -/

theorem ents_updD (d : Key → Option (List Ent)) (k : Key) (v : Option (List Ent)) (k' : Key) :
    ents (updD d k v) k' = if k' = k then v.getD [] else ents d k' := by
  unfold ents updD; split <;> rfl

theorem names_updF (fd : File → Option (List Key)) (f : File) (v : Option (List Key)) (f' : File) :
    names (updF fd f v) f' = if f' = f then v.getD [] else names fd f' := by
  unfold names updF; split <;> rfl

theorem stepW_take (s : St) (F : File) (news : List (Key × Nat)) :
    ∃ s' pc', stepW s ⟨F, .take, news⟩ = (s', ⟨F, pc', news⟩) ∧ s'.d = s.d ∧
      (∀ f, names s'.fd f = if f = F then [] else names s.fd f) ∧
      (pc' = .retain (names s.fd F) ∨ (names s.fd F = [] ∧ pc' = .push news)) := by
  unfold stepW
  dsimp only
  cases hfd : s.fd F with
  | none =>
    have hnil : names s.fd F = [] := by rw [names, hfd]; rfl
    refine ⟨_, _, rfl, rfl, fun f => ?_, Or.inr ⟨hnil, rfl⟩⟩
    split
    · subst f; exact hnil
    · rfl
  | some ns => exact ⟨_, _, rfl, rfl, fun f => names_updF .., Or.inl (by rw [names, hfd]; rfl)⟩

theorem stepW_retain (s : St) (F : File) (k : Key) (todo : List Key) (news : List (Key × Nat)) :
    ∃ s' fl, stepW s ⟨F, .retain (k :: todo), news⟩ = (s', ⟨F, .cond k fl todo, news⟩) ∧ s'.fd = s.fd ∧
      ∀ k', ents s'.d k' = if k' = k then (ents s.d k).filter (fun e => e.file != F) else ents s.d k' := by
  unfold stepW
  dsimp only
  cases hd : s.d k with
  | none =>
    refine ⟨_, _, rfl, rfl, fun k' => ?_⟩
    split
    · subst k'; rw [ents, hd]; rfl
    · rfl
  | some v =>
    refine ⟨_, _, rfl, rfl, fun k' => ?_⟩
    rw [ents_updD, show ents s.d k = v by rw [ents, hd]; rfl]; rfl

theorem stepW_cond (s : St) (F : File) (k : Key) (fl : Bool) (todo : List Key) (news : List (Key × Nat)) :
    ∃ s', stepW s ⟨F, .cond k fl todo, news⟩ = (s', ⟨F, .retain todo, news⟩) ∧ s'.fd = s.fd ∧
      ∀ k', ents s'.d k' = ents s.d k' := by
  cases fl with
  | false => exact ⟨_, rfl, rfl, fun _ => rfl⟩
  | true =>
    unfold stepW
    dsimp only
    rw [if_pos rfl]
    split
    · rename_i hd
      refine ⟨_, rfl, rfl, fun k' => ?_⟩
      rw [ents_updD]; split
      · subst k'; rw [ents, hd]; rfl
      · rfl
    · exact ⟨_, rfl, rfl, fun _ => rfl⟩

theorem stepW_push (s : St) (F : File) (k : Key) (t : Nat) (rest news : List (Key × Nat)) :
    ∃ s', stepW s ⟨F, .push ((k, t) :: rest), news⟩ = (s', ⟨F, .ins k rest, news⟩) ∧ s'.fd = s.fd ∧
      ∀ k', ents s'.d k' = if k' = k then ents s.d k ++ [⟨F, t⟩] else ents s.d k' :=
  ⟨_, rfl, rfl, fun _ => ents_updD ..⟩

theorem stepW_ins (s : St) (F : File) (k : Key) (rest news : List (Key × Nat)) :
    ∃ s', stepW s ⟨F, .ins k rest, news⟩ = (s', ⟨F, .push rest, news⟩) ∧ s'.d = s.d ∧
      ∀ f k', k' ∈ names s'.fd f ↔ k' ∈ names s.fd f ∨ (f = F ∧ k' = k) := by
  refine ⟨_, rfl, rfl, fun f k' => ?_⟩
  rw [names_updF]
  by_cases hf : f = F
  · subst f
    rw [if_pos rfl, Option.getD_some]
    split
    · rename_i hc
      exact ⟨Or.inl, fun h => h.elim id fun h => by rw [h.2]; exact List.contains_iff_mem.mp hc⟩
    · rw [List.mem_append, List.mem_singleton]; exact or_congr_right (and_iff_right rfl).symm
  · rw [if_neg hf]; exact (or_iff_left fun h => hf h.1).symm

/-- one worker's part in `TrackedW` -/
def covers (s : St) (w : Worker) (k : Key) (e : Ent) : Prop :=
  k ∈ names s.fd e.file ∨ (w.file = e.file ∧ justifies w.pc k)

/-- One worker step keeps cover: `take` moves the names from the index to the worker, `ins` moves one
    back, `retain` drops a name only together with the worker's entries under it, and `push` makes the
    worker answer for what it adds.  An entry that was there before may be covered by another worker, hence
    "covered afterwards if it was covered by the index or this worker before". -/
theorem cov_stepW (s : St) (w : Worker) {k : Key} {e : Ent} (he : e ∈ ents (stepW s w).1.d k) :
    covers (stepW s w).1 (stepW s w).2 k e ∨
      (e ∈ ents s.d k ∧ (covers s w k e → covers (stepW s w).1 (stepW s w).2 k e)) := by
  unfold covers
  obtain ⟨F, pc, news⟩ := w
  cases pc with
  | take =>
    obtain ⟨_, _, hstep, hd, hfd, hpc'⟩ := stepW_take s F news
    -- in every case `justifies` at the `pc` in hand is used as its clause (`False`, `k ∈ todo`, `k' = k`)
    simp only [hstep, hd, hfd] at he ⊢
    refine Or.inr ⟨he, ?_⟩
    rintro (h | ⟨_, h⟩)
    · by_cases hf : e.file = F
      · rw [hf] at h
        rcases hpc' with rfl | ⟨hnil, _⟩
        · exact Or.inr ⟨hf.symm, h⟩
        · rw [hnil] at h; cases h
      · exact Or.inl (by rw [if_neg hf]; exact h)
    · exact h.elim
  | retain todo =>
    cases todo with
    | nil => exact Or.inr ⟨he, Or.imp_right fun h => (List.not_mem_nil h.2).elim⟩
    | cons k0 todo =>
      obtain ⟨_, fl, hstep, hfd, hd⟩ := stepW_retain s F k0 todo news
      simp only [hstep, hd, hfd] at he ⊢
      by_cases hk : k = k0
      · subst k
        have he := List.mem_filter.mp (by rwa [if_pos rfl] at he)
        exact Or.inr ⟨he.1, Or.imp_right fun ⟨hf, _⟩ => absurd hf.symm (bne_iff_ne.mp he.2)⟩
      · rw [if_neg hk] at he
        refine Or.inr ⟨he, Or.imp_right fun ⟨hf, hj⟩ => ⟨hf, ?_⟩⟩
        exact (List.mem_cons.mp hj).resolve_left hk
  | cond k0 fl todo =>
    obtain ⟨_, hstep, hfd, hd⟩ := stepW_cond s F k0 fl todo news
    simp only [hstep, hd, hfd] at he ⊢
    exact Or.inr ⟨he, id⟩
  | push rest =>
    cases rest with
    | nil => exact Or.inr ⟨he, Or.imp_right fun h => h.2.elim⟩
    | cons kt rest =>
      obtain ⟨k0, t⟩ := kt
      obtain ⟨_, hstep, hfd, hd⟩ := stepW_push s F k0 t rest news
      simp only [hstep, hd, hfd] at he ⊢
      by_cases hk : k = k0
      · subst k
        rcases List.mem_append.mp (by rwa [if_pos rfl] at he) with he | he
        · exact Or.inr ⟨he, Or.imp_right fun h => h.2.elim⟩
        · rw [List.mem_singleton.mp he]; exact Or.inl (Or.inr ⟨rfl, rfl⟩)
      · rw [if_neg hk] at he; exact Or.inr ⟨he, Or.imp_right fun h => h.2.elim⟩
  | ins k0 rest =>
    obtain ⟨_, hstep, hd, hfd⟩ := stepW_ins s F k0 rest news
    simp only [hstep, hd, hfd] at he ⊢
    exact Or.inr ⟨he, fun h => Or.inl (h.imp_right fun ⟨hf, hj⟩ => ⟨hf.symm, hj.symm⟩)⟩
  | done => exact Or.inr ⟨he, id⟩

/-- **C10 (the invariant is preserved by every step of every worker).** -/
theorem C10_tracked_step (y : Sys) (i : Nat) (h : Tracked y) : Tracked (stepSys y i) := by
  intro k e he
  have mine : covers (stepW y.s (y.ws i)).1 (stepW y.s (y.ws i)).2 k e →
      k ∈ names (stepSys y i).s.fd e.file ∨
        ∃ j, ((stepSys y i).ws j).file = e.file ∧ justifies ((stepSys y i).ws j).pc k :=
    Or.imp_right fun hj => ⟨i, by simp only [stepSys, setW, if_true]; exact hj⟩
  rcases cov_stepW _ _ he with hnew | ⟨hold, hcov⟩
  · exact mine hnew
  · rcases h k e hold with h1 | ⟨j, hjf, hjj⟩
    · exact mine (hcov (Or.inl h1))
    · by_cases hji : j = i
      · subst hji; exact mine (hcov (Or.inr ⟨hjf, hjj⟩))
      · exact Or.inr ⟨j, by simp only [stepSys, setW, if_neg hji]; exact ⟨hjf, hjj⟩⟩

theorem C10_tracked_run (y : Sys) (sched : List Nat) (h : Tracked y) : Tracked (run y sched) :=
  List.foldlRecOn sched stepSys h fun y hy i _ => C10_tracked_step y i hy

/-- **C10 (every interleaving ends tracked).** Start from a tracked index, let any workers — scan
    visits and editor notifications, of the same file or of different ones — run under ANY
    schedule; once all are done, every definition in the index is covered by its file's reverse
    index: nothing is left that a later clean-up could not find. -/
theorem C10_tracked_quiescent (s : St) (ws : Nat → Worker) (h : Tr s) (sched : List Nat)
    (hdone : ∀ j, ((run { s := s, ws := ws } sched).ws j).pc = .done) :
    Tr (run { s := s, ws := ws } sched).s := by
  intro k e he
  rcases C10_tracked_run ⟨s, ws⟩ sched (fun k e he => Or.inl (h k e he)) k e he with h1 | ⟨j, _, hjj⟩
  · exact h1
  · rw [hdone j] at hjj; exact hjj.elim

/-- used with `a := 1` on a `stepW` equation, a run of length 1 by definition; so too the induction steps here
    and in `solo_cov` read `solo s w (a + 1)` as `solo` of the stepped pair for `a` -/
theorem solo_trans {s s1 : St} {w w1 : Worker} {a b : Nat} {r : St × Worker}
    (h1 : solo s w a = (s1, w1)) (h2 : solo s1 w1 b = r) : solo s w (a + b) = r := by
  induction a generalizing s w with
  | zero => cases h1; rw [Nat.zero_add]; exact h2
  | succ a ih => rw [Nat.add_right_comm]; exact ih h1

theorem solo_cov {s s' : St} {w w' : Worker} {n : Nat} (hrun : solo s w n = (s', w'))
    (h : ∀ k e, e ∈ ents s.d k → covers s w k e) : ∀ k e, e ∈ ents s'.d k → covers s' w' k e := by
  induction n generalizing s w with
  | zero => cases hrun; exact h
  | succ n ih =>
    refine ih hrun fun k e he => ?_
    rcases cov_stepW _ _ he with hnew | ⟨hold, hcov⟩
    · exact hnew
    · exact hcov (h k e hold)

theorem solo_retain (F : File) (news : List (Key × Nat)) (todo : List Key) (s : St) :
    ∃ n s', solo s ⟨F, .retain todo, news⟩ n = (s', ⟨F, .push news, news⟩) ∧ s'.fd = s.fd ∧
      ∀ k, ents s'.d k = if k ∈ todo then (ents s.d k).filter (fun e => e.file != F) else ents s.d k := by
  induction todo generalizing s with
  | nil => exact ⟨1, s, rfl, rfl, fun _ => (if_neg List.not_mem_nil).symm⟩
  | cons k0 todo ih =>
    obtain ⟨s1, fl, hw1, hfd1, hd1⟩ := stepW_retain s F k0 todo news
    obtain ⟨s2, hw2, hfd2, hd2⟩ := stepW_cond s1 F k0 fl todo news
    obtain ⟨n, s', hn, hfd, hd'⟩ := ih s2
    refine ⟨_, s', solo_trans (a := 1) hw1 (solo_trans (a := 1) hw2 hn), by rw [hfd, hfd2, hfd1], fun k => ?_⟩
    rw [hd' k, hd2, hd1]
    -- `k0` may occur in `todo` again: filtering twice is filtering once
    by_cases hk : k = k0
    · subst hk; simp [List.filter_filter]
    · simp [hk]

theorem solo_push (F : File) (news0 news : List (Key × Nat)) (s : St) :
    ∃ n s', solo s ⟨F, .push news, news0⟩ n = (s', ⟨F, .done, news0⟩) ∧
      (∀ k, ents s'.d k = ents s.d k ++ (news.filter (fun p => p.1 == k)).map (fun p => ⟨F, p.2⟩)) ∧
      (∀ k, k ∈ names s'.fd F ↔ k ∈ names s.fd F ∨ k ∈ news.map (·.1)) := by
  induction news generalizing s with
  | nil => exact ⟨1, s, rfl, fun _ => (List.append_nil _).symm, fun _ => (or_iff_left List.not_mem_nil).symm⟩
  | cons kt news ih =>
    obtain ⟨k0, t⟩ := kt
    obtain ⟨s1, hw1, hfd1, hd1⟩ := stepW_push s F k0 t news news0
    obtain ⟨s2, hw2, hd2, hfd2⟩ := stepW_ins s1 F k0 news news0
    obtain ⟨n, s', hn, hd', hnm'⟩ := ih s2
    refine ⟨_, s', solo_trans (a := 1) hw1 (solo_trans (a := 1) hw2 hn), fun k => ?_, fun k => ?_⟩
    · rw [hd' k, hd2, hd1, List.filter_cons]
      by_cases hk : k = k0
      · subst hk; rw [if_pos rfl, if_pos (beq_iff_eq.mpr rfl), List.map_cons, List.append_assoc]; rfl
      · rw [if_neg hk, if_neg fun h => hk (beq_iff_eq.mp h).symm]
    · rw [hnm' k, hfd2, hfd1, List.map_cons, List.mem_cons, or_assoc]
      exact or_congr_right (or_congr_left ⟨fun h => h.2, fun h => ⟨rfl, h⟩⟩)

theorem solo_cleanup (F : File) (news : List (Key × Nat)) (s : St) :
    ∃ n s', solo s (editWorker F news) n = (s', ⟨F, .push news, news⟩) ∧ names s'.fd F = [] ∧
      ∀ k, ents s'.d k = if k ∈ names s.fd F then (ents s.d k).filter (fun e => e.file != F) else ents s.d k := by
  obtain ⟨s0, _, hw, hd, hfd, rfl | ⟨hnil, rfl⟩⟩ := stepW_take s F news
  · obtain ⟨n, s1, hn, hfd1, hd1⟩ := solo_retain F news (names s.fd F) s0
    exact ⟨_, s1, solo_trans (a := 1) hw hn, by rw [hfd1, hfd]; exact if_pos rfl, fun k => by rw [hd1, hd]⟩
  · refine ⟨1, s0, hw, by rw [hfd]; exact if_pos rfl, fun k => ?_⟩
    rw [hd, hnil]; rfl

theorem solo_edit (F : File) (news : List (Key × Nat)) (s : St) (h : Tr s) :
    ∃ n s', solo s (editWorker F news) n = (s', { file := F, pc := .done, news := news }) ∧
      (∀ k, ents s'.d k =
        (ents s.d k).filter (fun e => e.file != F) ++ (news.filter (fun p => p.1 == k)).map (fun p => ⟨F, p.2⟩)) ∧
      (∀ k, k ∈ names s'.fd F ↔ k ∈ news.map (·.1)) ∧
      Tr s' := by
  obtain ⟨n1, s1, h1, hnm1, hd1⟩ := solo_cleanup F news s
  obtain ⟨n2, s2, h2, hd2, hnm2⟩ := solo_push F news news s1
  have hrun := solo_trans h1 h2
  refine ⟨n1 + n2, s2, hrun, fun k => ?_, fun k => ?_, fun k e he => ?_⟩
  · rw [hd2, hd1]
    by_cases hk : k ∈ names s.fd F
    · rw [if_pos hk]
    · -- by `Tr s`, `F` has no entry under a name that its reverse index does not list
      rw [if_neg hk]
      refine congrArg (· ++ _) (List.filter_eq_self.mpr fun e he => ?_).symm
      exact bne_iff_ne.mpr fun hf => hk (hf ▸ h k e he)
  · rw [hnm2, hnm1]; exact ⟨fun h => h.resolve_left List.not_mem_nil, Or.inr⟩
  · exact (solo_cov hrun (fun k e he => Or.inl (h k e he)) k e he).resolve_right fun h => h.2

/-! as in `PLS.Lemmas.Conc`, for this model's own `Ent` -/

theorem projF_drop (F G : File) (l : List Ent) :
    projF G (l.filter (fun e => e.file != F)) = if G = F then [] else projF G l := by
  unfold projF; rw [filter_beq_filter_bne]; simp only [beq_iff_eq]

theorem projF_append (G : File) (l₁ l₂ : List Ent) : projF G (l₁ ++ l₂) = projF G l₁ ++ projF G l₂ :=
  List.filter_append ..

theorem projF_tagged (F G : File) (l : List (Key × Nat)) :
    projF G (l.map fun p => (⟨F, p.2⟩ : Ent)) = if G = F then l.map (fun p => ⟨F, p.2⟩) else [] := by
  unfold projF
  rw [filter_beq_of_forall (a := F) fun e he => by obtain ⟨p, _, rfl⟩ := List.mem_map.mp he; rfl]
  simp only [beq_iff_eq]

/-- **C10 (one further change notification restores the exact single-analysis state).** From any
    quiescent state in which every definition is tracked — by `C10_tracked_quiescent`, every state
    the scan and any notifications can leave behind, however they interleaved — one more
    notification for `F`, handled alone, ends with: `F` owning under every name exactly the
    definitions of the notified version, in order, once; every other file's definitions untouched;
    the reverse index of `F` naming exactly the version's fixtures; the state tracked again. -/
theorem C10_one_more_change_restores (F : File) (news : List (Key × Nat)) (s : St) (h : Tr s) :
    ∃ n s', solo s (editWorker F news) n = (s', { file := F, pc := .done, news := news }) ∧
      (∀ k, projF F (ents s'.d k) = (news.filter (fun p => p.1 == k)).map (fun p => ⟨F, p.2⟩)) ∧
      (∀ G, G ≠ F → ∀ k, projF G (ents s'.d k) = projF G (ents s.d k)) ∧
      (∀ k, k ∈ names s'.fd F ↔ k ∈ news.map (·.1)) ∧
      Tr s' := by
  obtain ⟨n, s', hrun, hd, hnm, htr⟩ := solo_edit F news s h
  refine ⟨n, s', hrun, fun k => ?_, fun G hG k => ?_, hnm, htr⟩
  · rw [hd, projF_append, projF_drop, if_pos rfl, projF_tagged, if_pos rfl]; rfl
  · rw [hd, projF_append, projF_drop, if_neg hG, projF_tagged, if_neg hG, List.append_nil]

def empty : St := { d := fun _ => none, fd := fun _ => none }

theorem tr_empty : Tr empty := by intro k e he; simp [ents, empty] at he

def demoWorkers : Nat → Worker := fun j =>
  if j = 0 then scanWorker 7 [("a", 1), ("b", 2)]
  else if j = 1 then editWorker 7 [("a", 10), ("c", 30)] else idle

-- each worker to completion: the scan's visit takes 5 steps (2 × (`push`, `ins`), the empty `push`); the notification
-- 11 after it (`take`, 2 × (`retain`, `cond`), the empty `retain`, then as the scan), 6 before it (`take` finds nothing)
def scanThenEdit : Sys := run { s := empty, ws := demoWorkers } [0, 0, 0, 0, 0, 1, 1, 1, 1, 1, 1, 1, 1, 1, 1, 1]
def editThenScan : Sys := run { s := empty, ws := demoWorkers } [1, 1, 1, 1, 1, 1, 0, 0, 0, 0, 0]

/-- for `decide`: `Pc` has no `DecidableEq` -/
def Pc.isDone : Pc → Bool
  | .done => true
  | _ => false

/-- scan visit of `F` with the disk content, then the notification with the buffer: exactly the
    buffer's definitions (an instance of `C10_one_more_change_restores`, on a concrete pair of versions) -/
theorem C10_edit_after_scan_exact :
    scanThenEdit.s.d "a" = some [⟨7, 10⟩] ∧ scanThenEdit.s.d "b" = none ∧ scanThenEdit.s.d "c" = some [⟨7, 30⟩] ∧
    (scanThenEdit.ws 0).pc.isDone = true ∧ (scanThenEdit.ws 1).pc.isDone = true := by
  decide +kernel

/-- **C10 (the first sentence is false of the code: finding E9).** The notification first, then
    the scan's visit of the same file (which does not clean up): the index holds the buffer's AND
    the disk's definitions of `a` — "both", not "exactly once". -/
theorem C10_scan_after_edit_duplicates :
    editThenScan.s.d "a" = some [⟨7, 10⟩, ⟨7, 1⟩] ∧ editThenScan.s.d "b" = some [⟨7, 2⟩] ∧
    (editThenScan.ws 0).pc.isDone = true ∧ (editThenScan.ws 1).pc.isDone = true := by
  decide +kernel

end PLS.Conc10
