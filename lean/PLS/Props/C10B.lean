/-
  C10, bridge between the two models: `PLS.Model.Conc10` (one DashMap call per step, any interleaving;
  `definitions : name → entries tagged by file`, `file_definitions : file → names`) and `PLS.Model.Index`
  (whole analyses, sequential), the model the other properties use.
-/
import PLS.Props.C10
import PLS.Props.C06
namespace PLS
namespace Bridge10
open Conc10

/-- the abstract state of an index, for an encoding of file paths as numbers: a definition's line is its
    tag, and a name with no definition is absent (`none`, never `some []`) -/
def absSt (enc : Path → Nat) (st : Index) : St :=
  { d := fun k =>
      let l := (st.defs.filter (fun d => d.name == k)).map (fun d => (⟨enc d.file, d.line⟩ : Ent))
      if l.isEmpty then none else some l,
    fd := fun n => (st.fileDefs.find? (fun p => enc p.1 == n)).map (·.2) }

theorem beq_enc {enc : Path → Nat} (hinj : ∀ a b, enc a = enc b → a = b) (a b : Path) :
    (enc a == enc b) = (a == b) := by
  rw [Bool.eq_iff_iff, beq_iff_eq, beq_iff_eq]; exact ⟨hinj a b, congrArg enc⟩

theorem ents_abs (enc : Path → Nat) (st : Index) (k : String) :
    ents (absSt enc st).d k =
      (st.defs.filter (fun d => d.name == k)).map (fun d => (⟨enc d.file, d.line⟩ : Ent)) := by
  unfold ents absSt
  dsimp only
  split
  · rename_i h; rw [List.isEmpty_iff.mp h]; rfl
  · rfl

theorem fd_abs {enc : Path → Nat} (hinj : ∀ a b, enc a = enc b → a = b) (st : Index) (f : Path) :
    (absSt enc st).fd (enc f) = alookup st.fileDefs f := by
  unfold absSt alookup; simp only [beq_enc hinj]

theorem Tr_abs_iff (enc : Path → Nat) (hinj : ∀ a b, enc a = enc b → a = b) (st : Index) :
    Tr (absSt enc st) ↔ DefsTracked st := by
  constructor
  · intro h d hd
    have := h d.name ⟨enc d.file, d.line⟩ (by
      rw [ents_abs]; exact List.mem_map.mpr ⟨d, List.mem_filter.mpr ⟨hd, beq_iff_eq.mpr rfl⟩, rfl⟩)
    rw [names, fd_abs hinj] at this
    exact mem_getD_alookup.mp this
  · intro h k e he
    rw [ents_abs] at he
    obtain ⟨d, hd, rfl⟩ := List.mem_map.mp he
    obtain ⟨hd, hk⟩ := List.mem_filter.mp hd
    rw [names, fd_abs hinj, ← eq_of_beq hk]
    exact mem_getD_alookup.mpr (h d hd)

/-- **the op-level invariant is C06's bookkeeping invariant** -/
theorem tracked_of_Tr (enc : Path → Nat) (hinj : ∀ a b, enc a = enc b → a = b) (st : Index)
    (h : Tr (absSt enc st)) : DefsTracked st :=
  (Tr_abs_iff enc hinj st).mp h

theorem Tr_of_tracked (enc : Path → Nat) (hinj : ∀ a b, enc a = enc b → a = b) (st : Index)
    (h : DefsTracked st) : Tr (absSt enc st) :=
  (Tr_abs_iff enc hinj st).mpr h

/-- **C10 on the `Index` model.** If the abstract state of the index is tracked — which
    `C10_tracked_quiescent` proves of every state that scan visits and notifications can leave
    behind under any schedule — then one further notification for `f` with a valid version leaves
    in `definitions`: every other file's entries untouched and in order, followed by exactly that
    version's definitions. -/
theorem C10_one_more_change_on_index (enc : Path → Nat) (hinj : ∀ a b, enc a = enc b → a = b)
    (pfx : Path) (st : Index) (f : Path) (v : Version) (fr : FileRec) (hv : v.parsed = some fr)
    (h : Tr (absSt enc st)) :
    (Index.analyze pfx true st f v).1.defs =
      st.defs.filter (fun d => d.file != f) ++ (eventDefs fr.events).map (stampDef pfx st f) :=
  C06_defs_after_analyze pfx st f v fr hv (tracked_of_Tr enc hinj st h)

end Bridge10
end PLS
