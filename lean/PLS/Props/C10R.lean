/-
  C10 — the two models of one analysis agree: the worker program of `PLS.Model.Conc10`, run alone, and
  `PLS.Model.Index.analyze`.  Together with `C10_tracked_quiescent` (any interleaving leaves a tracked
  state) this puts the interleaving theorems and the theorems about `Index.analyze` on one footing.
-/
import PLS.Props.C10B
namespace PLS
namespace Bridge10
open Conc10

/-- **the notification's worker program, run alone, computes `Index.analyze`** (definitions side).
    From the abstraction of any tracked index state: running `editWorker` for the analysed file to
    completion yields, for every fixture name `k` and every file `g`, exactly the entries that the
    abstraction of `Index.analyze`'s result holds for `k` and `g` — in the same order. -/
theorem C10_solo_run_is_analyze (enc : Path → Nat) (hinj : ∀ a b, enc a = enc b → a = b)
    (pfx : Path) (st : Index) (f : Path) (v : Version) (fr : FileRec) (hv : v.parsed = some fr)
    (hinv : DefsTracked st) (hev : EventsFor f fr.events) :
    ∃ n s', solo (absSt enc st) (editWorker (enc f) ((eventDefs fr.events).map (fun d => (d.name, d.line)))) n =
        (s', { file := enc f, pc := .done, news := (eventDefs fr.events).map (fun d => (d.name, d.line)) }) ∧
      ∀ (k : String) (g : Path),
        projF (enc g) (ents s'.d k) =
          projF (enc g) (ents (absSt enc (Index.analyze pfx true st f v).1).d k) := by
  obtain ⟨n, s', hrun, hd, _, _⟩ :=
    solo_edit (enc f) ((eventDefs fr.events).map (fun d => (d.name, d.line)))
      (absSt enc st) (Tr_of_tracked enc hinj st hinv)
  refine ⟨n, s', hrun, fun k g => congrArg (projF (enc g)) ?_⟩
  -- the two vectors are equal as wholes: both sides become
  -- `map _ (filter _ st.defs) ++ map _ (filter _ (eventDefs fr.events))`
  simp only [hd, ents_abs, C06_defs_after_analyze pfx st f v fr hv hinv, List.filter_append, List.map_append,
    List.filter_map, List.filter_filter, List.map_map]
  refine congr (congrArg _ ?_) ?_
  · refine congrArg _ (List.filter_congr fun d _ => ?_)
    simp only [Function.comp, bne, beq_enc hinj, Bool.and_comm]
  · -- `stampDef` keeps name, line and file: the filters are the same
    exact List.map_congr_left fun d hmem => by
      show (⟨enc f, d.line⟩ : Ent) = ⟨enc d.file, d.line⟩
      rw [hev d (List.mem_filter.mp hmem).1]

end Bridge10
end PLS
