/-
  C11 — no input or request sequence crashes or wedges the server.

  In the model every repository function that slices, indexes or subtracts returns an `Option`
  whose `none` is "the Rust code panics here".
-/
import PLS.Model.Lsp
import PLS.Lemmas.Analyze
namespace PLS

/-- **C11 (`parameter_has_annotation` is total)**: any line number and any column — past the
    line, inside a multi-byte character, stale — give an answer (E16 repaired: `str::get`). -/
theorem C11_annotation_total (lines : List Chars) (line endChar : Nat) :
    parameterHasAnnotation lines line endChar = true ∨ parameterHasAnnotation lines line endChar = false := by
  cases parameterHasAnnotation lines line endChar <;> simp

/-- regression witness of E16: a stale column inside `é` is answered with `false` -/
theorem C11_annotation_e16 : parameterHasAnnotation ["def test_p(x, multé".toList] 1 19 = false := by
  rw [String.toList_ofList]
  decide +kernel

/-- a column off a character boundary never reports an annotation -/
theorem C11_annotation_off_boundary (lines : List Chars) (line endChar : Nat) (lt : Chars)
    (hl : lines[line - 1]? = some lt) (hb : bsliceFrom lt endChar = none) :
    parameterHasAnnotation lines line endChar = false := by
  simp only [parameterHasAnnotation, hl, hb]

/-- regression witness of E7: continuation lines indented with U+3000 are dedented by stripping -/
theorem C11_docstring_e7 : formatDocstring "x\n  a\n　b".toList = "x\na\nb".toList := by
  repeat rw [String.toList_ofList]
  decide +kernel

/-- **C11 (`format_docstring` never slices off a character boundary)**: every continuation line
    is either cut at a boundary found by `bsliceFrom` or stripped of its leading whitespace. -/
theorem C11_dedent_total (m : Nat) (l : Chars) :
    dedentLine m l = [] ∨ dedentLine m l = trimStart l ∨ bsliceFrom l m = some (dedentLine m l) := by
  fun_cases dedentLine m l with
  | case1 => exact .inl rfl  -- a blank line
  | case2 _ _ r hr => exact .inr (.inr hr)  -- byte `m` is a boundary
  | case3 | case4 => exact .inr (.inl rfl)  -- inside a character / past the end: stripped

/-- **C11 (analysis never aborts)**: no statement of any module makes the analyzer emit the
    panic event — docstrings of any shape included. -/
theorem C11_stmt_never_panics (f : Path) (lines : List Chars) (mn : List String) :
    (s : Stmt) → Event.panic ∉ visitStmt f lines mn s :=
  fun s h => visitStmt_for f lines mn s _ h

theorem C11_analysis_never_panics (f : Path) (lines : List Chars) (mn : List String) :
    (ss : List Stmt) → Event.panic ∉ visitStmts f lines mn ss :=
  fun ss h => visitStmts_for f lines mn ss _ h

/-- positions outside the document, on stale lines or at `u32::MAX` are answered with "nothing":
    the word under the cursor is total -/
theorem C11_word_total (line : Chars) (col : Nat) (h : line.length ≤ col) : wordAt line col = none := by
  rw [wordAt, List.getElem?_eq_none h]

/-- a cursor beyond the last line yields no answer from go-to-definition, references, … -/
theorem C11_goto_beyond_text (st : Index) (f : Path) (line0 col : Nat)
    (h : st.lineText f line0 = none) : (st.goto f line0 col).1 = none := by
  unfold Index.goto
  simp [h]

theorem C11_fixtureAt_beyond_text (st : Index) (f : Path) (line0 col : Nat)
    (h : st.lineText f line0 = none) : st.fixtureAt f line0 col = none := by
  unfold Index.fixtureAt
  simp [h]

/-- an unparsable text never changes anything but the cached text: a broken file cannot damage
    what the others contributed (restated from C06 for the scan-isolation clause) -/
theorem C11_invalid_file_isolated (pfx : Path) (cl : Bool) (st : Index) (f : Path) (v : Version)
    (h : v.parsed = none) :
    (Index.analyze pfx cl st f v).1.defs = st.defs ∧ (Index.analyze pfx cl st f v).1.usages = st.usages ∧
    (Index.analyze pfx cl st f v).2 = false := by
  rw [analyze_none h]
  exact ⟨rfl, rfl, rfl⟩

end PLS
