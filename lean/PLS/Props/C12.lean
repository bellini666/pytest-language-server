/-
  C12 — every operation terminates: no deadlock, no unbounded looping.

  This file, locks: under the nesting discipline `Disc` — which the correspondence
  check establishes of every (held guards, blocking request) pair recorded from the real code,
  for one ranking of the maps — no set of threads can be deadlocked, WHATEVER shard each key lands
  in and whatever the schedule: the theorem quantifies over all lock states, and `Lock.shard` is
  never assumed to separate two keys.
-/
import PLS.Model.Locks
namespace PLS.Locks

def reqRank (rank : Nat → Nat) (t : TState) : Nat :=
  match t.req with
  | some (l, _) => rank l.cls
  | none => 0

theorem exists_max {α} (f : α → Nat) (l : List α) (h : l ≠ []) : ∃ a ∈ l, ∀ b ∈ l, f b ≤ f a := by
  induction l with
  | nil => exact absurd rfl h
  | cons x xs ih =>
    cases xs with
    | nil => exact ⟨x, List.mem_cons_self, List.forall_mem_singleton.mpr (Nat.le_refl _)⟩
    | cons y ys =>
      obtain ⟨a, ha, hmax⟩ := ih (List.cons_ne_nil _ _)
      rcases Nat.le_total (f a) (f x) with hc | hc
      · exact ⟨x, List.mem_cons_self, List.forall_mem_cons.mpr ⟨Nat.le_refl _, fun b hb => Nat.le_trans (hmax b hb) hc⟩⟩
      · exact ⟨a, List.mem_cons_of_mem _ ha, List.forall_mem_cons.mpr ⟨hc, hmax⟩⟩

theorem blocked_rank {rank : Nat → Nat} {t u : TState} (hd : Disc rank u) {l l' : Lock} {m held m' : Mode}
    (htreq : t.req = some (l, m)) (hhold : (l, held) ∈ u.holds) (hureq : u.req = some (l', m')) :
    reqRank rank t ≤ reqRank rank u ∧ (reqRank rank u ≤ reqRank rank t → held = .R ∧ m' = .R) := by
  rw [reqRank, reqRank, htreq, hureq]
  rcases hd l' m' hureq l held hhold with ⟨h1, h2, h3⟩ | hlt
  · exact ⟨h3, fun _ => ⟨h1, h2⟩⟩
  · exact ⟨Nat.le_of_lt hlt, fun hle => absurd hlt (Nat.not_lt_of_le hle)⟩

/-- **C12 (no deadlock under the discipline, for every key placement and schedule).**
    If every thread's pending request respects the discipline for one ranking of the maps,
    there is no non-empty set of threads each waiting for a member of the set. -/
theorem C12_no_deadlock (rank : Nat → Nat) (ts : List TState) (h : ∀ t ∈ ts, Disc rank t) :
    ¬ Deadlock ts := by
  rintro ⟨S, hne, hsub, hblk⟩
  -- `t` asks for a map of maximal rank; it waits for a guard of `u`, who waits for a guard of `w`, who waits too
  obtain ⟨t, htS, hmax⟩ := exists_max (reqRank rank) S hne
  obtain ⟨u, huS, l, m, held, htreq, huhold, _⟩ := hblk t htS
  obtain ⟨w, hwS, l', m', held', hureq, hwhold, hconf⟩ := hblk u huS
  obtain ⟨_, _, l'', m'', _, hwreq, _, _⟩ := hblk w hwS
  obtain ⟨h1, h2⟩ := blocked_rank (h u (hsub u huS)) htreq huhold hureq
  obtain ⟨_, h4⟩ := blocked_rank (h w (hsub w hwS)) hureq hwhold hwreq
  -- by maximality the rank stays the same from `t` to `u` to `w`: so `u` asks for a read, and the guard of `w` it waits
  -- for is a read guard — which does not block a read
  obtain ⟨_, rfl⟩ := h2 (hmax u huS)
  obtain ⟨rfl, _⟩ := h4 (Nat.le_trans (hmax w hwS) h1)
  exact absurd hconf (by decide)

theorem deadlock_of_all_blocked {ts : List TState} (hne : ts ≠ [])
    (h : ∀ t ∈ ts, ∃ u ∈ ts, blockedBy t u) : Deadlock ts :=
  ⟨ts, hne, fun _ ht => ht, h⟩

/-- **C12 (progress).** Under the discipline some thread can always move: there is a thread
    whose pending request — if it has one — conflicts with no guard held by anybody. -/
theorem C12_progress (rank : Nat → Nat) (ts : List TState) (hne : ts ≠ []) (h : ∀ t ∈ ts, Disc rank t) :
    ∃ t ∈ ts, ¬ ∃ u ∈ ts, blockedBy t u := by
  apply Classical.byContradiction
  intro hno
  refine C12_no_deadlock rank ts h (deadlock_of_all_blocked hne fun t ht => ?_)
  exact Classical.byContradiction fun hnb => hno ⟨t, ht, hnb⟩

/-- what the check evaluates on the recorded nestings implies the discipline of the theorem -/
theorem C12_discOK_sound (rank : Nat → Nat) (t : TState) (n : Nesting) (hn : nestingOf t = some n)
    (hok : nestingOK rank n = true) : Disc rank t := by
  intro l m hreq l' held hhold
  rw [nestingOf, hreq] at hn
  cases hn
  have := List.all_eq_true.mp hok _ (List.mem_map_of_mem (f := fun h => (h.1.cls, h.2)) hhold)
  simpa only [Bool.or_eq_true, decide_eq_true_eq, Bool.and_eq_true, beq_iff_eq, and_assoc] using this

/-- a thread that holds nothing, or asks for nothing, satisfies the discipline trivially -/
theorem disc_of_no_holds (rank : Nat → Nat) (t : TState) (h : t.holds = [] ∨ t.req = none) : Disc rank t := by
  intro _ _ hreq _ _ hhold
  rcases h with h | h
  · rw [h] at hhold; cases hhold
  · rw [h] at hreq; cases hreq

/-- a write request on a map while a read guard on the same map is held (a guard kept alive
    across a call that writes to the same map): if both keys land in the same shard the thread
    deadlocks with itself — one thread, no scheduling involved -/
theorem C12_reentrant_write_self_deadlocks (c s : Nat) :
    Deadlock [{ holds := [(⟨c, s⟩, .R)], req := some (⟨c, s⟩, .W) }] :=
  deadlock_of_all_blocked (List.cons_ne_nil _ _) <| List.forall_mem_singleton.mpr
    ⟨_, List.mem_singleton_self _, ⟨_, _, _, rfl, List.mem_singleton_self _, rfl⟩⟩

/-- … and with different shards the same code runs through: the hazard "depends on two keys
    landing in different shards", which is why the discipline is stated on classes -/
theorem C12_reentrant_write_other_shard_is_not_blocked (c s s' : Nat) (hs : s ≠ s') :
    ¬ blockedBy { holds := [(⟨c, s⟩, .R)], req := some (⟨c, s'⟩, .W) }
                { holds := [(⟨c, s⟩, .R)], req := some (⟨c, s'⟩, .W) } := by
  rintro ⟨l, m, held, hreq, hhold, _⟩
  cases hreq
  cases List.mem_singleton.mp hhold
  exact hs rfl

theorem deadlock_of_cross {t u : TState} (htu : blockedBy t u) (hut : blockedBy u t) : Deadlock [t, u] :=
  deadlock_of_all_blocked (List.cons_ne_nil _ _) <| List.forall_mem_cons.mpr
    ⟨⟨u, List.mem_cons_of_mem _ List.mem_cons_self, htu⟩, List.forall_mem_singleton.mpr ⟨t, List.mem_cons_self, hut⟩⟩

/-- two threads taking two maps in opposite orders (no ranking satisfies both) deadlock -/
theorem C12_opposite_orders_deadlock :
    Deadlock [{ holds := [(⟨0, 0⟩, .W)], req := some (⟨1, 0⟩, .W) },
              { holds := [(⟨1, 0⟩, .W)], req := some (⟨0, 0⟩, .W) }] :=
  deadlock_of_cross ⟨_, _, _, rfl, List.mem_cons_self, rfl⟩ ⟨_, _, _, rfl, List.mem_cons_self, rfl⟩

/-- why read-under-read may not go DOWN in rank while write guards nest upwards: thread 1 holds a
    read guard on map 1 and reads map 0; thread 2 holds a write guard on map 0 and writes map 1 —
    each nesting looks harmless alone, together they deadlock -/
theorem C12_read_down_plus_write_up_deadlocks :
    Deadlock [{ holds := [(⟨1, 0⟩, .R)], req := some (⟨0, 0⟩, .R) },
              { holds := [(⟨0, 0⟩, .W)], req := some (⟨1, 0⟩, .W) }] :=
  deadlock_of_cross ⟨_, _, _, rfl, List.mem_cons_self, rfl⟩ ⟨_, _, _, rfl, List.mem_cons_self, rfl⟩

/-- non-vacuity: the nesting the code actually performs (read under read on one map, then a write on
    a higher-ranked map) satisfies the discipline -/
example : Disc (fun c => c) { holds := [(⟨3, 0⟩, .R), (⟨3, 1⟩, .R)], req := some (⟨3, 0⟩, .R) } ∧
    Disc (fun c => c) { holds := [(⟨3, 0⟩, .R)], req := some (⟨5, 1⟩, .W) } ∧
    -- two maps read-nested in both orders share a rank
    Disc (fun _ => 1) { holds := [(⟨0, 0⟩, .R)], req := some (⟨1, 0⟩, .R) } ∧
    Disc (fun _ => 1) { holds := [(⟨1, 0⟩, .R)], req := some (⟨0, 0⟩, .R) } := by
  refine ⟨?_, ?_, ?_, ?_⟩ <;> exact C12_discOK_sound _ _ _ rfl (by decide)

end PLS.Locks
