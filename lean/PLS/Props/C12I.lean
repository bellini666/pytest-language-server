/-
  C12 — termination on circular and self imports: `get_imported_fixtures` (`imports.rs`, modelled as
  `Index.imported` with a fuel argument) recurses through star imports and `pytest_plugins` with no
  depth bound other than its `visited` set.
-/
import PLS.Lemmas.Imports
namespace PLS
namespace ImpT
open Index

/-- the files with content (cached or on disk): only these recurse further -/
def files (st : Index) : List Path := st.cache.map (·.1) ++ st.disk.map (·.1)

/-- the termination measure -/
def mu (st : Index) (vis : List Path) : Nat := ((files st).filter (fun g => !vis.contains g)).length

/-- what a call of `imported` returns: the names, the visited set, the state -/
abbrev Result := List String × List Path × Index

/-- one edge of `compute`, parameterised by the recursive call -/
def edgeStep (rec_ : Index → Path → List Path → Result) (f : Path) (acc : Result) (imp : ImportRec) : Result :=
  match acc.2.2.resolveModule imp.modulePath f with
  | none => acc
  | some target =>
    if imp.isStar then
      let r := rec_ acc.2.2 target acc.2.1
      (unionNames (unionNames acc.1 ((alookup acc.2.2.fileDefs target).getD [])) r.1, r.2.1, r.2.2)
    else
      (unionNames acc.1 (imp.names.filter (fun n => acc.2.2.defs.any (·.name == n))), acc.2.1, acc.2.2)

theorem edgeStep_none {rec_ : Index → Path → List Path → Result} {f : Path} {acc : Result} {e : ImportRec}
    (h : acc.2.2.resolveModule e.modulePath f = none) : edgeStep rec_ f acc e = acc := by
  unfold edgeStep; rw [h]

theorem edgeStep_star {rec_ : Index → Path → List Path → Result} {f : Path} {acc : Result} {e : ImportRec} {t : Path}
    (h : acc.2.2.resolveModule e.modulePath f = some t) (hs : e.isStar = true) :
    edgeStep rec_ f acc e =
      (unionNames (unionNames acc.1 ((alookup acc.2.2.fileDefs t).getD [])) (rec_ acc.2.2 t acc.2.1).1,
        (rec_ acc.2.2 t acc.2.1).2.1, (rec_ acc.2.2 t acc.2.1).2.2) := by
  unfold edgeStep; rw [h]; dsimp only; rw [if_pos hs]

/-- the end of `compute`: a call at the top of a traversal stores its answer in the memo table -/
def finish (top : Bool) (f : Path) (v : Version) (s : Result) : Result :=
  (s.1, s.2.1, if top then { s.2.2 with impCache := ainsert s.2.2.impCache f (v.text, s.2.2.version, s.1) } else s.2.2)

theorem compute_eq (top : Bool) (fuel : Nat) (st : Index) (f : Path) (vis : List Path) (v : Version) :
    imported.compute top fuel st f vis v =
      finish top f v (v.edges.foldl (edgeStep (imported fuel) f) (([] : List String), vis, st)) := by
  unfold imported.compute Version.edges
  cases v.effRec with
  | none => rfl
  | some fr =>
    -- `fr.edges` written out: the fold splits into the model's two
    show _ = finish top f v ((fr.imports ++ _).foldl _ _)
    rw [List.foldl_append, List.foldl_map]
    rfl

theorem imported_zero (st : Index) (f : Path) (vis : List Path) : imported 0 st f vis = ([], vis, st) := by
  unfold imported; rfl

/-- the motive speaks of the answer as a function of the remaining fuel `k`: a fact about one fuel
    (`fun r => Post st f vis (r n)`) and one about two (`fun r => r m = r n`) are both instances -/
theorem imported_cases {motive : (Nat → Result) → Prop} (st : Index) (f : Path) (vis : List Path)
    (seen : f ∈ vis → motive fun _ => ([], vis, st))
    (absent : f ∉ vis → st.content f = none → motive fun _ => ([], f :: vis, st))
    (hit : ∀ {v t ver names}, f ∉ vis → st.content f = some v → alookup st.impCache f = some (t, ver, names) →
      (t == v.text && ver == st.version) = true → motive fun _ => (names, f :: vis, st))
    (miss : ∀ v, f ∉ vis → st.content f = some v → motive fun k => imported.compute vis.isEmpty k st f (f :: vis) v) :
    motive fun k => imported (k + 1) st f vis := by
  unfold imported
  split
  · exact seen (List.contains_iff_mem.mp ‹_›)
  · have hf : f ∉ vis := fun h => ‹¬_› (List.contains_iff_mem.mpr h)
    cases hc : st.content f with
    | none => exact absent hf hc
    | some v =>
      cases hl : alookup st.impCache f with
      | none => exact miss v hf hc
      | some e =>
        obtain ⟨t, ver, names⟩ := e
        dsimp only
        split
        · exact hit hf hc hl ‹_›
        · exact miss v hf hc

/-- what every call guarantees; the state is untouched, except that a call at the top of a traversal
    (`vis = []`) may store its answer in the memo table (the E12 repair: only such a call does) -/
structure Post (st : Index) (f : Path) (vis : List Path) (r : Result) : Prop where
  sub : ∀ g, g ∈ vis → g ∈ r.2.1
  state : r.2.2 = st ∨ (vis = [] ∧ ∃ v, st.content f = some v ∧
    r.2.2 = { st with impCache := ainsert st.impCache f (v.text, st.version, r.1) })

theorem Post.nested {st : Index} {f : Path} {vis : List Path} {r : Result} (h : Post st f vis r) (hne : vis ≠ []) :
    r.2.2 = st := h.state.resolve_right fun hh => hne hh.1

/-- the accumulator inside `compute`; `V`: the visited set on entry, the file itself in it -/
structure ComputeInv (st : Index) (V : List Path) (acc : Result) : Prop where
  state : acc.2.2 = st
  sub : ∀ g, g ∈ V → g ∈ acc.2.1

/-- a nested call is entered with a non-empty `visited` (it holds `V`): not at the top of a traversal, it
    leaves the memo table alone -/
theorem edgeStep_keeps {rec_ : Index → Path → List Path → Result} (hrec : ∀ st t vis, Post st t vis (rec_ st t vis))
    (f : Path) {st : Index} {V : List Path} (hV : V ≠ []) (acc : Result) (imp : ImportRec) (h : ComputeInv st V acc) :
    ComputeInv st V (edgeStep rec_ f acc imp) := by
  fun_cases edgeStep rec_ f acc imp with
  | case1 => exact h  -- the module does not resolve
  | case2 t =>  -- a star import of `t`
    have p := hrec acc.2.2 t acc.2.1
    obtain ⟨g, hg⟩ := List.exists_mem_of_ne_nil _ hV
    exact ⟨(p.nested (List.ne_nil_of_mem (h.sub g hg))).trans h.state, fun g hg => p.sub g (h.sub g hg)⟩
  | case3 => exact { h with }  -- an explicit import adds names only

theorem finish_post {st : Index} {f : Path} {vis : List Path} {v : Version} (hc : st.content f = some v) {s : Result}
    (hs : ComputeInv st (f :: vis) s) : Post st f vis (finish vis.isEmpty f v s) := by
  refine ⟨fun g hg => hs.sub g (List.mem_cons_of_mem _ hg), ?_⟩
  cases vis with
  | nil => exact Or.inr ⟨rfl, v, hc, by unfold finish; rw [hs.state]; rfl⟩
  | cons a l => exact Or.inl hs.state

theorem compute_post {n : Nat} (hrec : ∀ st t vis, Post st t vis (imported n st t vis))
    (st : Index) (f : Path) (vis : List Path) (v : Version) (hc : st.content f = some v) :
    Post st f vis (imported.compute vis.isEmpty n st f (f :: vis) v) := by
  rw [compute_eq]
  exact finish_post hc (List.foldlRecOn _ _ ⟨rfl, fun _ h => h⟩ fun b hb e _ =>
    edgeStep_keeps hrec f (List.cons_ne_nil _ _) b e hb)

theorem imported_post : ∀ (fuel : Nat) (st : Index) (f : Path) (vis : List Path),
    Post st f vis (imported fuel st f vis) := by
  intro fuel
  induction fuel with
  | zero => exact fun st f vis => imported_zero st f vis ▸ ⟨fun _ h => h, Or.inl rfl⟩
  | succ n ih =>
    intro st f vis
    have leaf : ∀ names, Post st f vis (names, f :: vis, st) :=
      fun _ => ⟨fun g hg => List.mem_cons_of_mem _ hg, Or.inl rfl⟩
    exact imported_cases (motive := fun r => Post st f vis (r n)) st f vis
      (seen := fun _ => ⟨fun _ h => h, Or.inl rfl⟩) (absent := fun _ _ => leaf _)
      (hit := fun _ _ _ _ => leaf _) (miss := fun v _ hc => compute_post ih st f vis v hc)

theorem not_visited {vis : List Path} {g : Path} : (!vis.contains g) = true ↔ g ∉ vis := by
  rw [Bool.not_eq_true', List.contains_eq_mem, decide_eq_false_iff_not]

theorem mu_antitone (st : Index) {va vb : List Path} (hsub : ∀ g, g ∈ vb → g ∈ va) : mu st va ≤ mu st vb :=
  filter_len_mono _ _ _ fun g _ hg => not_visited.mpr fun h => not_visited.mp hg (hsub g h)

theorem mem_files_of_content (st : Index) (f : Path) (v : Version) (h : st.content f = some v) : f ∈ files st := by
  unfold content at h
  unfold files
  rw [List.mem_append]
  cases hc : alookup st.cache f with
  | some w => exact Or.inl (ahas_iff_mem_keys.mp (ahas_of_alookup hc))
  | none =>
    rw [hc] at h
    exact Or.inr (ahas_iff_mem_keys.mp (ahas_of_alookup h))

theorem mu_cons_lt (st : Index) (f : Path) (vis : List Path) (hf : f ∈ files st) (hv : f ∉ vis) :
    mu st (f :: vis) < mu st vis :=
  filter_len_strict (files st) _ _ (fun _ _ hg => not_visited.mpr fun h => not_visited.mp hg (List.mem_cons_of_mem _ h))
    f hf (not_visited.mpr hv) (Bool.eq_false_iff.mpr fun h => not_visited.mp h List.mem_cons_self)

theorem edgeStep_congr {r1 r2 : Index → Path → List Path → Result} (f : Path) (acc : Result) (imp : ImportRec)
    (h : ∀ t, r1 acc.2.2 t acc.2.1 = r2 acc.2.2 t acc.2.1) : edgeStep r1 f acc imp = edgeStep r2 f acc imp := by
  unfold edgeStep
  split
  · rfl
  · rw [h]

theorem compute_stable (top : Bool) (n m : Nat)
    (hrecEq : ∀ st' t vis', mu st' vis' < n → imported m st' t vis' = imported n st' t vis')
    (st : Index) (f : Path) (vis : List Path) (v : Version) (hne : vis ≠ []) (hmu : mu st vis < n) :
    imported.compute top m st f vis v = imported.compute top n st f vis v := by
  have heq : ∀ b e, ComputeInv st vis b → edgeStep (imported m) f b e = edgeStep (imported n) f b e :=
    fun b e hb => edgeStep_congr f b e fun t => hrecEq b.2.2 t b.2.1
      (hb.state ▸ Nat.lt_of_le_of_lt (mu_antitone st hb.sub) hmu)
  rw [compute_eq, compute_eq, foldl_congr_inv (ComputeInv st vis) ⟨rfl, fun _ h => h⟩ heq
    fun b e hb => edgeStep_keeps (imported_post n) f hne b e hb]

theorem imported_stable : ∀ (n : Nat) (st : Index) (f : Path) (vis : List Path), mu st vis < n →
    ∀ m, n ≤ m → imported m st f vis = imported n st f vis := by
  intro n
  induction n with
  | zero => exact fun st f vis h => absurd h (Nat.not_lt_zero _)
  | succ n ih =>
    intro st f vis hmu m hm
    cases m with
    | zero => exact absurd hm (Nat.not_succ_le_zero _)
    | succ m =>
      -- only a call that computes looks at its fuel
      refine imported_cases (motive := fun r => r m = r n) st f vis (seen := fun _ => rfl) (absent := fun _ _ => rfl)
        (hit := fun _ _ _ _ => rfl) (miss := fun v hf hc => ?_)
      exact compute_stable _ n m (fun st' t vis' h' => ih st' t vis' h' m (Nat.le_of_succ_le_succ hm)) st f
        (f :: vis) v (List.cons_ne_nil _ _) (Nat.lt_of_lt_of_le
          (mu_cons_lt st f vis (mem_files_of_content st f v hc) hf) (Nat.le_of_lt_succ hmu))

theorem mu_le_files (st : Index) (vis : List Path) : mu st vis ≤ st.cache.length + st.disk.length := by
  unfold mu files
  simpa only [List.length_append, List.length_map] using
    List.length_filter_le (fun g => !vis.contains g) (st.cache.map (·.1) ++ st.disk.map (·.1))

/-- `fuelFor` is the number of files + 2: one more than this needs -/
theorem fuel_ok (st : Index) (vis : List Path) : mu st vis < st.fuelFor :=
  Nat.lt_of_le_of_lt (mu_le_files st vis) (Nat.lt_succ_of_lt (Nat.lt_succ_self _))

end ImpT

open ImpT in
/-- **C12 (import traversal terminates on every import graph).** For circular imports, self
    imports, diamonds — any graph — and any starting `visited` set: every fuel at least
    `fuelFor st` (number of cached + on-disk files, plus two) gives the same answer, the same
    `visited` set and the same memo table.  The recursion ends because each level adds a file with
    content to `visited`; the fuel is never what stops it. -/
theorem C12_imported_fuel_irrelevant (st : Index) (f : Path) (vis : List Path) (m : Nat) (hm : st.fuelFor ≤ m) :
    Index.imported m st f vis = Index.imported st.fuelFor st f vis :=
  imported_stable st.fuelFor st f vis (fuel_ok st vis) m hm

open ImpT in
/-- the depth actually needed: one more than the files with content not yet visited -/
theorem C12_imported_depth_bounded (st : Index) (f : Path) (vis : List Path) (m : Nat) (hm : mu st vis + 1 ≤ m) :
    Index.imported m st f vis = Index.imported (mu st vis + 1) st f vis :=
  imported_stable (mu st vis + 1) st f vis (Nat.lt_succ_self _) m hm

end PLS
