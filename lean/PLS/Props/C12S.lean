/-
  C12 — the work-list loop of `scan_imported_fixture_modules` (`scanner.rs`, modelled as
  `Index.importScan`): "iterate until no new module turns up", with `processed_files` as the only
  guard, on import graphs that may be cyclic.

  `processed` does not only grow: a file whose imports were walked before it became a plugin file is
  taken out again and walked once more (the repair `2bbe7de`: plugin status does not depend on the
  visiting order).  Hence the measure: every file of a universe `U` (the files to check, on disk,
  cached) weighs (1 if unprocessed) + (2 if not a plugin file); no step raises a weight, and every
  round that does not stop lowers one.  The weights are a matter of the accumulator alone; `U` is
  needed only for their sum.
-/
import PLS.Lemmas.Imports
namespace PLS
namespace ScanT
open Index

theorem mem_keys_of_ahas {β} (l : List (Path × β)) (k : Path) (h : ahas l k = true) : k ∈ l.map (·.1) :=
  ahas_iff_mem_keys.mp h

def weight (processed plugin : List Path) (g : Path) : Nat :=
  (if g ∈ processed then 0 else 1) + (if g ∈ plugin then 0 else 2)

def weightIn (acc : ScanAcc) (g : Path) : Nat := weight acc.processed acc.st.pluginFiles g

def mu (U processed plugin : List Path) : Nat := (U.map (weight processed plugin)).sum

theorem ite_mono {a b : Prop} [Decidable a] [Decidable b] (k : Nat) (h : a → b) :
    (if b then 0 else k) ≤ (if a then 0 else k) := by
  split
  · exact Nat.zero_le _
  · rw [if_neg (fun ha => ‹¬b› (h ha))]; exact Nat.le_refl _

/-- `hp`: a file may leave `processed` when it becomes a plugin file (1 up, 2 down) -/
theorem weight_le {p p' q q' : List Path} {g : Path} (hq : g ∈ q → g ∈ q')
    (hp : g ∈ p → g ∈ p' ∨ (g ∉ q ∧ g ∈ q')) : weight p' q' g ≤ weight p q g := by
  unfold weight
  by_cases hl : g ∈ p ∧ g ∉ p'
  · obtain ⟨h1, h2⟩ := (hp hl.1).resolve_left hl.2
    rw [if_neg hl.2, if_pos h2, if_pos hl.1, if_neg h1]; decide
  · exact Nat.add_le_add (ite_mono 1 fun h => Decidable.not_not.mp fun hn => hl ⟨h, hn⟩) (ite_mono 2 hq)

theorem mu_le (U processed plugin : List Path) : mu U processed plugin ≤ 3 * U.length := by
  -- `weight [] [] g` computes to 3
  have := sum_le U (weight processed plugin) (fun _ => 3) fun g _ =>
    (weight_le (p := []) (q := []) (fun h => nomatch h) fun h => nomatch h : weight processed plugin g ≤ weight [] [] g)
  rwa [List.map_const', List.sum_replicate_nat, Nat.mul_comm] at this

theorem importStep_weight (mark : Bool) (acc : ScanAcc) (t g : Path) :
    weightIn (importStep mark acc t) g ≤ weightIn acc g := by
  refine weight_le (fun h => mem_pluginFiles_importStep.mpr (Or.inl h)) fun h => ?_
  by_cases hl : mark = true ∧ t ∉ acc.st.pluginFiles ∧ g = t
  · exact Or.inr ⟨hl.2.2 ▸ hl.2.1, mem_pluginFiles_importStep.mpr (Or.inr ⟨hl.1, hl.2.2⟩)⟩
  · exact Or.inl (mem_processed_importStep.mpr ⟨h, hl⟩)

theorem importScanFile_weight (f : Path) (acc : ScanAcc) (g : Path) : weightIn (importScanFile f acc) g ≤ weightIn acc g :=
  importScanFile_ind (P := fun b => weightIn b g ≤ weightIn acc g) (Nat.le_refl _)
    fun hb _ => Nat.le_trans (importStep_weight _ _ _ g) hb

theorem round_weight (toCheck : List Path) (acc : ScanAcc) (g : Path) : weightIn (toCheck.foldl roundStep acc) g ≤ weightIn acc g :=
  round_ind (P := fun b => weightIn b g ≤ weightIn acc g) (Nat.le_refl _)
    (fun hb => Nat.le_trans (weight_le id fun hg => Or.inl (List.mem_append_left _ hg)) hb)
    fun hb _ => Nat.le_trans (importStep_weight _ _ _ g) hb

theorem roundStep_strict (acc : ScanAcc) (f : Path) (hf : f ∉ acc.processed) :
    weightIn (roundStep acc f) f < weightIn acc f := by
  rw [roundStep_walk hf]
  refine Nat.lt_of_le_of_lt (importScanFile_weight f _ f) ?_
  unfold weightIn weight
  rw [if_neg hf, if_pos List.mem_concat_self]
  exact Nat.add_lt_add_right Nat.zero_lt_one _

theorem round_measure (toCheck : List Path) (acc : ScanAcc) :
    toCheck.foldl roundStep acc = acc ∨ ∃ x, x ∈ toCheck ∧ weightIn (toCheck.foldl roundStep acc) x < weightIn acc x := by
  induction toCheck generalizing acc with
  | nil => exact Or.inl rfl
  | cons a l ih =>
    rw [List.foldl_cons]
    by_cases ha : a ∈ acc.processed
    · rw [roundStep_done ha]
      exact (ih acc).imp_right fun ⟨x, hx, hlt⟩ => ⟨x, List.mem_cons_of_mem _ hx, hlt⟩
    · exact Or.inr ⟨a, List.mem_cons_self, Nat.lt_of_le_of_lt (round_weight l _ a) (roundStep_strict acc a ha)⟩

structure Good (U : List Path) (st : Index) : Prop where
  cacheU : ∀ k, ahas st.cache k = true → k ∈ U
  diskU : ∀ k, ahas st.disk k = true → k ∈ U

structure Inside (U : List Path) (acc : ScanAcc) : Prop where
  good : Good U acc.st
  news : ∀ t, t ∈ acc.news → t ∈ U
  rewalk : ∀ t, t ∈ acc.rewalk → t ∈ U

theorem importStep_inside {U : List Path} {mark : Bool} {acc : ScanAcc} {t : Path}
    (ht : t ∈ U) (h : Inside U acc) : Inside U (importStep mark acc t) where
  good := by rw [importStep_st_eq]; exact ⟨h.good.cacheU, h.good.diskU⟩
  news x hx := (mem_news_importStep.mp hx).elim (h.news x) fun hx => hx.2 ▸ ht
  rewalk x hx := (mem_rewalk_importStep.mp hx).elim (h.rewalk x) fun hx => hx.2 ▸ ht

/-- what a round queues are resolved modules, and those exist -/
theorem round_inside (U : List Path) (toCheck : List Path) (acc : ScanAcc) (h : Inside U acc) :
    Inside U (toCheck.foldl roundStep acc) :=
  round_ind h (fun hb => { hb with }) fun hb hr =>
    importStep_inside ((resolveModule_exists hr).elim (hb.good.diskU _) (hb.good.cacheU _)) hb

theorem ahas_ainsert {β} (l : List (Path × β)) (k x : Path) (v : β) (h : ahas (ainsert l k v) x = true) :
    ahas l x = true ∨ x = k := by
  rw [ahas_ainsert_eq, Bool.or_eq_true, beq_iff_eq] at h
  exact h.symm

/-- the version an analysis leaves in the cache: a text that does not parse carries the record of the
    last version that did (`Index.carry`) -/
def cachedAs (st : Index) (f : Path) (v : Version) : Version :=
  match v.parsed with
  | none => carry st f v
  | some _ => v

theorem cachedAs_parsed (st : Index) (f : Path) (v : Version) :
    (cachedAs st f v).parsed = v.parsed ∧ (cachedAs st f v).text = v.text := by
  unfold cachedAs carry
  cases h : v.parsed with
  | none => exact ⟨rfl, rfl⟩
  | some fr => exact ⟨h, rfl⟩

theorem analyze_cd (pfx : Path) (cl : Bool) (st : Index) (f : Path) (v : Version) :
    (analyze pfx cl st f v).1.disk = st.disk ∧
    (analyze pfx cl st f v).1.cache = ainsert st.cache f (cachedAs st f v) := by
  refine ⟨(analyze_frame pfx cl st f v).disk, ?_⟩
  unfold cachedAs
  cases hv : v.parsed with
  | none => rw [analyze_none hv]
  | some fr => rw [analyze_eq hv]

theorem analyzeNew_cache (pfx : Path) (st : Index) (m g : Path) (h : ahas (analyzeNew pfx st m).cache g = true) :
    ahas st.cache g = true ∨ g = m := by
  revert h
  fun_cases analyzeNew pfx st m with
  | case1 v => exact fun h => ahas_ainsert _ _ _ _ ((analyze_cd pfx false st m v).2 ▸ h)
  | case2 | case3 => exact Or.inl  -- not readable, or not on disk

theorem analyzeNew_frame (pfx : Path) (st : Index) (m : Path) : Frame st (analyzeNew pfx st m) := by
  have same : Frame st st := by constructor <;> rfl
  fun_cases analyzeNew pfx st m with
  | case1 v => exact analyze_frame pfx false st m v
  | case2 | case3 => exact same  -- not readable, or not on disk

theorem analyzeAll_good (pfx : Path) (U : List Path) (news : List Path) (st : Index)
    (hn : ∀ m, m ∈ news → m ∈ U) (h : Good U st) : Good U (news.foldl (analyzeNew pfx) st) :=
  List.foldlRecOn _ _ h fun b hb m hm =>
    { cacheU := fun k hk => (analyzeNew_cache pfx b m k hk).elim (hb.cacheU k) fun e => e ▸ hn m hm,
      diskU := fun k hk => hb.diskU k ((analyzeNew_frame pfx b m).disk ▸ hk) }

theorem analyzeAll_pf (pfx : Path) (news : List Path) (st : Index) :
    (news.foldl (analyzeNew pfx) st).pluginFiles = st.pluginFiles :=
  foldl_keeps Index.pluginFiles (fun b m => (analyzeNew_frame pfx b m).pluginFiles) news st

abbrev roundStart (st : Index) (processed re : List Path) : ScanAcc :=
  { news := [], re := re, st := st, processed := processed, rewalk := [] }

theorem importScan_eq (pfx : Path) (fuel : Nat) (st : Index) (toCheck processed re : List Path) :
    importScan pfx (fuel + 1) st toCheck processed re =
      let r := toCheck.foldl roundStep (roundStart st processed re)
      if r.news.isEmpty && r.rewalk.isEmpty then (r.st, r.re) else
      importScan pfx fuel (r.news.foldl (analyzeNew pfx) r.st) (r.news ++ r.rewalk) r.processed r.re := by
  -- with no file to check the round is its own start, which queues nothing
  cases toCheck <;> rfl

theorem round_lt {U : List Path} {st : Index} {T p re : List Path} (hT : ∀ f, f ∈ T → f ∈ U) {r : ScanAcc}
    (hr : T.foldl roundStep (roundStart st p re) = r)
    (hn : ¬ (r.news.isEmpty && r.rewalk.isEmpty) = true) :
    mu U r.processed r.st.pluginFiles < mu U p st.pluginFiles := by
  subst hr
  rcases round_measure T (roundStart st p re) with
    hidle | ⟨x, hxT, hxlt⟩
  · rw [hidle] at hn; exact absurd rfl hn
  · exact sum_lt U _ _ (fun g _ => round_weight T _ g) x (hT x hxT) hxlt

/-- `scan_imported_fixture_modules` as the loop it is, without fuel: `Run pfx st toCheck processed re res`
    says that the loop started in that state ends by itself with `res` (`C14P` reasons about this) -/
inductive Run (pfx : Path) : Index → List Path → List Path → List Path → Index × List Path → Prop
  | stop {st T p re r} :
      T.foldl roundStep (roundStart st p re) = r →
      (r.news.isEmpty && r.rewalk.isEmpty) = true → Run pfx st T p re (r.st, r.re)
  | next {st T p re r res} :
      T.foldl roundStep (roundStart st p re) = r →
      ¬ (r.news.isEmpty && r.rewalk.isEmpty) = true →
      Run pfx (r.news.foldl (analyzeNew pfx) r.st) (r.news ++ r.rewalk) r.processed r.re res → Run pfx st T p re res

theorem Run.det {pfx : Path} {st : Index} {T p re : List Path} {a b : Index × List Path}
    (ha : Run pfx st T p re a) (hb : Run pfx st T p re b) : a = b := by
  induction ha with
  | stop hr hs => cases hb with
    | stop hr' _ => rw [← hr, ← hr']
    | next hr' hn => exact absurd (hr.symm.trans hr' ▸ hs) hn
  | next hr hn _ ih => cases hb with
    | stop hr' hs => exact absurd (hr'.symm.trans hr ▸ hs) hn
    | next hr' _ hrun => cases hr.symm.trans hr'; exact ih hrun

/-- the fuel is never what stops the loop -/
theorem run_of_fuel (pfx : Path) (U : List Path) :
    ∀ (n : Nat) (st : Index) (T p re : List Path), Good U st → (∀ f, f ∈ T → f ∈ U) →
      mu U p st.pluginFiles < n → Run pfx st T p re (importScan pfx n st T p re) := by
  intro n
  induction n with
  | zero => exact fun st T p re _ _ h => absurd h (Nat.not_lt_zero _)
  | succ n ih =>
    intro st T p re hgood hT hmu
    rw [importScan_eq]
    generalize hr : T.foldl roundStep _ = r
    refine iteInduction (motive := (Run pfx st T p re ·)) (Run.stop hr) fun hs => ?_
    have hin : Inside U r := hr ▸ round_inside U T _
      { good := hgood, news := fun _ h => (nomatch h), rewalk := fun _ h => nomatch h }
    refine Run.next hr hs (ih _ _ _ _ (analyzeAll_good pfx U _ _ hin.news hin.good)
      (fun f hf => (List.mem_append.mp hf).elim (hin.news f) (hin.rewalk f)) ?_)
    rw [analyzeAll_pf]
    exact Nat.lt_of_lt_of_le (round_lt hT hr hs) (Nat.le_of_lt_succ hmu)

theorem importScan_stable (pfx : Path) (U : List Path) (n : Nat) (st : Index)
    (toCheck processed re : List Path) (hg : Good U st) (hT : ∀ f, f ∈ toCheck → f ∈ U)
    (hmu : mu U processed st.pluginFiles < n) (m : Nat) (hm : n ≤ m) :
    importScan pfx m st toCheck processed re = importScan pfx n st toCheck processed re :=
  (run_of_fuel pfx U m st toCheck processed re hg hT (Nat.lt_of_lt_of_le hmu hm)).det
    (run_of_fuel pfx U n st toCheck processed re hg hT hmu)

end ScanT

open ScanT in
/-- **C12 (the scan's import work-list loop terminates on every import graph).** Let `U` be any
    list containing the files on disk, the cached files and the files to check.  Any fuel larger
    than three times the number of files of `U` gives the same final index and the same
    re-analysis list: a file is walked again only after it has been marked as a plugin file, which
    happens once per file, so circular and self imports cannot keep the loop going. -/
theorem C12_import_scan_fuel_irrelevant (pfx : Path) (U : List Path) (st : Index) (toCheck processed re : List Path)
    (hdisk : ∀ k, ahas st.disk k = true → k ∈ U) (hcache : ∀ k, ahas st.cache k = true → k ∈ U)
    (hT : ∀ f, f ∈ toCheck → f ∈ U) (m : Nat) (hm : 3 * U.length + 1 ≤ m) :
    Index.importScan pfx m st toCheck processed re = Index.importScan pfx (3 * U.length + 1) st toCheck processed re :=
  importScan_stable pfx U (3 * U.length + 1) st toCheck processed re { cacheU := hcache, diskU := hdisk } hT
    (Nat.lt_succ_of_le (mu_le U processed st.pluginFiles)) m hm

end PLS
