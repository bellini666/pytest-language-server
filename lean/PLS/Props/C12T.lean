/-
  C12 — termination on cyclic structures: the explicit-stack DFS of `compute_fixture_cycles` (`resolver.rs`, modelled
  step by step in `PLS.Model.Cycles`).  Its `while let Some(..) = stack.pop()` loop has no syntactic bound: frames are
  pushed back with a larger index, dependencies are pushed as new frames, and the graph may contain cycles.

  The measure is lexicographic: (nodes neither visited nor on the recursion stack, with the top frame counted as
  entered; work left in the frames, `deg − idx + 2` each).  It decreases from EVERY state, so that no invariant is
  needed.  `Inv` (index ≤ out-degree, only the top frame unexpanded) plays no part in it: it is the first component of
  the stack invariant of `Props/C16T`.
-/
import PLS.Lemmas.Dfs
import PLS.Lemmas.List
namespace PLS
namespace DfsT

def deg (ix : List Def) (n : String) : Nat := (cyDeps ix n).length

theorem deps_in_names (ix : List Def) : ∀ n d, d ∈ cyDeps ix n → d ∈ namesOf ix := by
  intro n d hd
  obtain ⟨_, _, _, e, he, hn⟩ := mem_cyDeps.mp hd
  exact List.mem_eraseDups.mpr (List.mem_map.mpr ⟨e, he, hn⟩)

/-- the state in which `compute_fixture_cycles` starts the DFS of a root -/
def start (s : Dfs) (r : String) : Dfs := { s with stack := [(r, 0, [])], recStack := [] }

/-- the recursion stack with the top frame entered -/
def grey (s : Dfs) : List String :=
  match s.stack with
  | [] => s.recStack
  | (cur, idx, _) :: _ => rsIn s.recStack cur idx

def touched (s : Dfs) : List String := s.visited ++ grey s

theorem mem_touched {s : Dfs} {n : String} : n ∈ touched s ↔ n ∈ s.visited ∨ n ∈ grey s := List.mem_append

theorem mem_grey {s : Dfs} {n : String} (h : n ∈ s.recStack) : n ∈ grey s := by
  unfold grey
  split
  · exact h
  · exact mem_rsIn.mpr (Or.inl h)

def m1 (U : List String) (s : Dfs) : Nat := (U.filter fun n => decide (n ∉ touched s)).length

def wt (ix : List Def) (f : String × Nat × List String) : Nat := deg ix f.1 - f.2.1 + 2
def m2 (ix : List Def) (s : Dfs) : Nat := (s.stack.map (wt ix)).sum

/-- more than the frame work one push can add: the factor that flattens the lexicographic pair -/
def bigK (ix : List Def) (U : List String) : Nat := (U.map (fun n => deg ix n + 2)).sum + 1

def measure (ix : List Def) (U : List String) (s : Dfs) : Nat := m1 U s * bigK ix U + m2 ix s

theorem lex_lt {a a' b b' K : Nat} (h : a' < a ∧ b' < b + K ∨ a' ≤ a ∧ b' < b) : a' * K + b' < a * K + b := by
  rcases h with ⟨h1, h2⟩ | ⟨h1, h2⟩
  · calc a' * K + b' < a' * K + (b + K) := Nat.add_lt_add_left h2 _
      _ = (a' + 1) * K + b := by rw [Nat.succ_mul, Nat.add_assoc, Nat.add_comm b K]
      _ ≤ a * K + b := Nat.add_le_add_right (Nat.mul_le_mul_right K h1) b
  · exact Nat.add_lt_add_of_le_of_lt (Nat.mul_le_mul_right K h1) h2

theorem lex_le {a b n K : Nat} (ha : a ≤ n) (hb : b ≤ K) : a * K + b ≤ (n + 1) * K :=
  Nat.succ_mul n K ▸ Nat.add_le_add (Nat.mul_le_mul_right K ha) hb

theorem wt_succ {ix : List Def} {cur : String} {idx : Nat} (p p' : List String) (h : idx < deg ix cur) :
    wt ix (cur, idx + 1, p') < wt ix (cur, idx, p) :=
  Nat.add_lt_add_right (Nat.sub_succ_lt_self _ _ h) 2

theorem wt_lt_bigK {ix : List Def} {U : List String} {n : String} (p : List String) (h : n ∈ U) : wt ix (n, 0, p) < bigK ix U :=
  Nat.lt_succ_of_le (le_sum_of_mem U (fun n => deg ix n + 2) n h)

theorem m1_mono {U : List String} {s s' : Dfs} (h : ∀ n ∈ touched s, n ∈ touched s') : m1 U s' ≤ m1 U s :=
  filter_len_mono U _ _ fun a _ ha => decide_eq_true (mt (h a) (of_decide_eq_true ha))

theorem m1_strict {U : List String} {s s' : Dfs} (h : ∀ n ∈ touched s, n ∈ touched s')
    {x : String} (hx : x ∈ U) (h0 : x ∉ touched s) (h1 : x ∈ touched s') : m1 U s' < m1 U s :=
  filter_len_strict U _ _ (fun a _ ha => decide_eq_true (mt (h a) (of_decide_eq_true ha))) x hx
    (decide_eq_true h0) (decide_eq_false (not_not_intro h1))

/-- a pop or an advance uses up frame work and un-touches nothing; a push touches a new node, and adds less than
    `bigK` of frame work -/
theorem step_decreases (ix : List Def) (U : List String) (hU : ∀ n d, d ∈ cyDeps ix n → d ∈ U)
    {s s' : Dfs} (h : Step ix s s') : measure ix U s' < measure ix U s := by
  apply lex_lt
  cases h with
  | @pop cur =>  -- the popped frame's node
    refine Or.inr ⟨m1_mono fun n hn => ?_, ?_⟩
    · -- `cur` moves from the recursion stack to `visited`
      rw [mem_touched] at hn ⊢
      by_cases hc : n = cur
      · exact Or.inl (mem_setInsert.mpr (Or.inr hc))
      · exact hn.imp (fun h => mem_setInsert.mpr (Or.inl h)) fun h => mem_grey (List.mem_filter.mpr ⟨h, bne_iff_ne.mpr hc⟩)
    · simp only [m2, List.map_cons, List.sum_cons]
      exact Nat.lt_add_of_pos_left (Nat.succ_pos _)
  | adv hdep _ =>
    refine Or.inr ⟨m1_mono fun n => ?_, ?_⟩
    · -- the frame is entered already: `rsIn _ cur (idx + 1)` adds nothing
      rw [mem_touched, mem_touched]
      exact id
    · simp only [m2, List.map_cons, List.sum_cons]
      exact Nat.add_lt_add_right (wt_succ _ _ (List.getElem?_eq_some_iff.mp hdep).1) _
  | push hdep hrs hv =>
    have hdU := hU _ _ (List.mem_of_getElem? hdep)
    refine Or.inl ⟨m1_strict (fun n => ?_) hdU ?_ ?_, ?_⟩
    · rw [mem_touched, mem_touched]
      exact Or.imp_right fun h => mem_rsIn.mpr (Or.inl h)
    · rw [mem_touched]
      exact fun h => h.elim hv hrs
    · exact mem_touched.mpr (Or.inr (mem_rsIn.mpr (Or.inr ⟨rfl, rfl⟩)))
    · simp only [m2, List.map_cons, List.sum_cons]
      rw [Nat.add_comm]
      exact Nat.add_lt_add (Nat.add_lt_add_right (wt_succ _ _ (List.getElem?_eq_some_iff.mp hdep).1) _) (wt_lt_bigK _ hdU)

theorem dfsRun_terminates (ix : List Def) (U : List String) (hU : ∀ n d, d ∈ cyDeps ix n → d ∈ U) (fuel : Nat) :
    ∀ (s : Dfs), measure ix U s ≤ fuel → (dfsRun ix fuel s).stack = [] := by
  induction fuel with
  | zero =>
    exact fun s hm => Decidable.byContradiction fun hne =>
      Nat.not_lt_zero _ (Nat.lt_of_lt_of_le (step_decreases ix U hU (dfsStep_spec ix s hne)) hm)
  | succ f ih =>
    intro s hm
    by_cases hne : s.stack = []
    · rwa [dfsRun_nil ix hne]
    · rw [dfsRun_cons ix hne]
      exact ih _ (Nat.le_of_lt_succ (Nat.lt_of_lt_of_le (step_decreases ix U hU (dfsStep_spec ix s hne)) hm))

/-- the part of the DFS state the control flow depends on -/
structure Sk where
  stack   : List (String × Nat × List String)
  visited : List String
  rs      : List String

def proj (s : Dfs) : Sk := ⟨s.stack, s.visited, s.recStack⟩

structure Inv (ix : List Def) (k : Sk) : Prop where
  idx_le : ∀ f ∈ k.stack, f.2.1 ≤ deg ix f.1
  tail_pos : ∀ f ∈ k.stack.tail, 1 ≤ f.2.1

theorem inv_start (ix : List Def) (s : Dfs) (r : String) : Inv ix (proj (start s r)) :=
  ⟨fun f hf => by cases List.mem_singleton.mp hf; exact Nat.zero_le _, fun f hf => by cases hf⟩

theorem roots_induct (ix : List Def) (P : Dfs → Prop) (roots : List String)
    (h : ∀ s, ∀ r ∈ roots, P s → P (dfsRun ix (cyFuel ix) (start s r))) (s0 : Dfs) (h0 : P s0) :
    P (roots.foldl (fun (s : Dfs) r =>
      if s.visited.contains r then s
      else dfsRun ix (cyFuel ix) { s with stack := [(r, 0, [])], recStack := [] }) s0) :=
  List.foldlRecOn roots _ h0 fun s hs r hr => iteInduction (fun _ => hs) fun _ => h s r hr hs

end DfsT

open DfsT in
/-- **C12 (the cycle DFS terminates on every dependency graph).** Whatever the definitions —
    self-referential fixtures, cycles of any length, several strongly connected components,
    overrides — and whatever was visited before, the explicit-stack loop started for a root `r`
    ends with an EMPTY stack after at most `cyFuel ix` iterations: it is the emptiness of the stack
    that ends it, never the model's fuel. -/
theorem C12_dfs_terminates (ix : List Def) (s : Dfs) (r : String) (hr : r ∈ namesOf ix) :
    (dfsRun ix (cyFuel ix) (start s r)).stack = [] := by
  -- `cyFuel ix` is `(number of names + 1) * bigK`: at most all names are untouched, the root's frame has less than `bigK` work
  exact dfsRun_terminates ix (namesOf ix) (deps_in_names ix) _ _
    (lex_le (List.length_filter_le _ _) (Nat.le_of_lt (wt_lt_bigK [] hr)))

open DfsT in
/-- **C12 (… and the answer does not depend on the fuel).** Any larger bound gives the same state:
    the fuel of the model is not an approximation of the loop. -/
theorem C12_dfs_fuel_irrelevant (ix : List Def) (s : Dfs) (r : String) (hr : r ∈ namesOf ix) (g : Nat)
    (hg : cyFuel ix ≤ g) : dfsRun ix g (start s r) = dfsRun ix (cyFuel ix) (start s r) := by
  obtain ⟨k, rfl⟩ := Nat.exists_eq_add_of_le hg
  rw [dfsRun_add, dfsRun_nil ix (C12_dfs_terminates ix s r hr)]

open DfsT in
/-- **C12 (`compute_fixture_cycles` as a whole).** Starting one DFS per root, in any root order,
    never leaves a non-empty stack behind: every one of them ran to completion. -/
theorem C12_all_roots_complete (ix : List Def) (roots : List String) (hroots : ∀ r ∈ roots, r ∈ namesOf ix)
    (s0 : Dfs) (h0 : s0.stack = []) :
    (roots.foldl (fun (s : Dfs) r =>
      if s.visited.contains r then s
      else dfsRun ix (cyFuel ix) { s with stack := [(r, 0, [])], recStack := [] }) s0).stack = [] :=
  roots_induct ix (·.stack = []) roots (fun s r hr _ => C12_dfs_terminates ix s r (hroots r hr)) s0 h0

end PLS
