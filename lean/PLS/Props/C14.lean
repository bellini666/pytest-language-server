/-
  C14 — imported and plugin fixtures are discovered transitively and classified.
-/
import PLS.Model.Venv
import PLS.Lemmas.Imports
namespace PLS
open Index

/-- **C14 (classification).** A recorded definition is third-party iff its path mentions
    `site-packages` or it lies in an editable install outside the workspace; it is a plugin
    fixture iff its file was reached through a pytest11 entry point (or propagated from one). -/
theorem C14_classification (pfx : Path) (st : Index) (f : Path) (d : Def) :
    (stampDef pfx st f d).thirdParty = (inSitePackages pfx st f || st.editableThirdParty f) ∧
    (stampDef pfx st f d).plugin = st.pluginFiles.contains f := ⟨rfl, rfl⟩

/-- an editable install whose source lies inside the workspace (or that contains the workspace)
    is not third-party -/
theorem C14_editable_in_workspace (st : Index) (f : Path) (ws : Path) (root sp : Path) (raw : String)
    (hws : st.workspaceRoot = some ws)
    (hfirst : st.editable.find? (fun e => pathStartsWith f e.1) = some (root, sp, raw))
    (hin : pathStartsWith root ws = true ∨ pathStartsWith ws root = true) :
    st.editableThirdParty f = false := by
  unfold editableThirdParty
  rw [hfirst]
  simp only [hws]
  rcases hin with h | h <;> simp [h]

/-- … and one outside it is -/
theorem C14_editable_outside_workspace (st : Index) (f : Path) (ws : Path) (root sp : Path) (raw : String)
    (hws : st.workspaceRoot = some ws)
    (hfirst : st.editable.find? (fun e => pathStartsWith f e.1) = some (root, sp, raw))
    (h1 : pathStartsWith root ws = false) (h2 : pathStartsWith ws root = false) :
    st.editableThirdParty f = true := by
  unfold editableThirdParty
  rw [hfirst]
  simp [hws, h1, h2]

/-- **C14 (entry-point module paths cannot escape the base directory)**: a module path with an
    empty segment, a `..` or a NUL byte in a segment resolves to nothing. -/
theorem C14_entry_point_no_traversal (st : Index) (base : Path) (module : String)
    (h : entryPointParts module = none) : st.resolveEntryPoint base module = none := by
  unfold resolveEntryPoint
  rw [h]

theorem C14_traversal_examples :
    entryPointParts "..evil" = none ∧ entryPointParts "a..b" = none ∧ entryPointParts "" = none ∧
    entryPointParts "pkg.mod:attr" = some ["pkg", "mod"] := by decide +kernel

/-- **C14 (only the `[pytest11]` section counts)**; other sections, comments and malformed lines
    are ignored, surrounding whitespace is stripped. -/
theorem C14_pytest11_section_only :
    parsePytest11 "[console_scripts]\ntool = pkg.cli:main\n\n[pytest11]\n# c\nfoo = pytest_foo.plugin\nbroken line\n bar=pytest_bar \n[other]\nx = y\n".toList
      = [("foo", "pytest_foo.plugin"), ("bar", "pytest_bar")] ∧
    parsePytest11 "[console_scripts]\nfoo = bar\n".toList = [] ∧
    parsePytest11 "".toList = [] := by
  -- the kernel would decode UTF-8 to evaluate `"…".toList`; `String.toList_ofList` turns a literal's into its characters
  repeat rw [String.toList_ofList]
  decide +kernel

/-- package names of metadata directories: the version starts at the first `-` followed by a digit;
    `-`, `.` become `_`, case is folded (the lower-casing function is a parameter) -/
theorem C14_package_name_examples :
    packageNameOfDistInfo id "my-package-1.0.0.dist-info" = some ("my-package", "my_package") ∧
    packageNameOfDistInfo id "pkg.egg-info" = some ("pkg", "pkg") ∧
    packageNameOfDistInfo id "name.with.dots-2.dist-info" = some ("name.with.dots", "name_with_dots") ∧
    packageNameOfDistInfo id "not-metadata" = none := by decide +kernel

/-- **C14 (`.pth` matching)**: a stem belongs to a package iff it IS one of the candidate names or
    a candidate followed by `-<digit>…` — a longer name sharing the prefix does not match. -/
theorem C14_pth_stem_rule :
    pthStemMatches "__editable__.my_pkg-0.1".toList (pthCandidates "my-pkg" "my_pkg") = true ∧
    pthStemMatches "_my_pkg".toList (pthCandidates "my-pkg" "my_pkg") = true ∧
    pthStemMatches "my_pkg_extra".toList (pthCandidates "my-pkg" "my_pkg") = false ∧
    pthStemMatches "__editable__.my_pkg_extra-0.1".toList (pthCandidates "my-pkg" "my_pkg") = false ∧
    pthLines "# c\nimport sys\n\n/src/../escape\n/abs/src\n".toList = ["/abs/src".toList] := by
  repeat rw [String.toList_ofList]
  decide +kernel

/-- **C14 (what `scan_plugin_directory` analyses)**: Python files at most three levels below the
    directory whose name does not start with `test_`. -/
theorem C14_plugin_dir_files (st : Index) (dir p : Path) (h : p ∈ st.pluginDirFiles dir) :
    pathStartsWith p dir = true ∧ p.length - dir.length ≤ 3 ∧
    ∃ n, p.getLast? = some n ∧ n.endsWith ".py" = true ∧ n.startsWith "test_" = false := by
  unfold pluginDirFiles at h
  simp only [List.mem_filter, Bool.and_eq_true, decide_eq_true_eq] at h
  obtain ⟨_, ⟨⟨⟨hprefix, _⟩, hdepth⟩, hname⟩⟩ := h
  refine ⟨hprefix, hdepth, ?_⟩
  cases hl : p.getLast? with
  | none => simp [hl] at hname
  | some n =>
    simp only [hl, Bool.and_eq_true, Bool.not_eq_true'] at hname
    exact ⟨n, rfl, hname.1.1, hname.1.2⟩

/-- an unmarked step never touches the plugin marks; a marking step adds exactly the target -/
theorem importStep_marks (mark : Bool) (acc : ScanAcc) (t : Path) :
    (importStep mark acc t).st.pluginFiles =
      if mark && !acc.st.pluginFiles.contains t then acc.st.pluginFiles ++ [t] else acc.st.pluginFiles :=
  importStep_pluginFiles mark acc t

/-- a file is walked again exactly when the step that marks it as a plugin file finds it already
    processed (the repair of the visiting-order dependence): otherwise `processed` is untouched -/
theorem importStep_rewalk (mark : Bool) (acc : ScanAcc) (t : Path) :
    (importStep mark acc t).processed =
      if mark && !acc.st.pluginFiles.contains t && acc.processed.contains t
      then acc.processed.filter (fun g => g != t) else acc.processed :=
  importStep_processed mark acc t

/-- **C14 (plugin status propagates along star imports and `pytest_plugins` only, and only from
    files that are plugin files themselves)**: scanning the imports of a file that is not a
    plugin file marks nothing — whatever it imports, however. -/
theorem C14_plugin_mark_propagation (f : Path) (acc : ScanAcc) (hnot : acc.st.pluginFiles.contains f = false) :
    (importScanFile f acc).st = acc.st ∧ (importScanFile f acc).processed = acc.processed :=
  importScanFile_ind (P := fun b => b.st = acc.st ∧ b.processed = acc.processed) ⟨rfl, rfl⟩
    -- the mark is `false && _`: the step computes to one that keeps `st` and `processed`
    fun hb _ => by rw [hnot]; exact hb

end PLS
