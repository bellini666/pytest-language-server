/-
  C14 — "Fixtures reachable … through chains of star imports … and pytest_plugins declarations
  (… including import cycles) are available exactly where the importing file makes them available":
  the closure theorem for `get_imported_fixtures` (`Index.imported`).

  Nested calls do not write the memo table (the E12 repair, `/repo` acef4ce), so the whole
  traversal below a query reads ONE state (`nested_state`).
-/
import PLS.Props.C12I
namespace PLS
namespace ImpC
open Index ImpT

/-- explicit imports (`from m import a, b`) are outside the statements: the implementation judges them
    by name only (the recorded E1 findings) -/
def StarOnly (st : Index) : Prop :=
  ∀ f v fr, st.content f = some v → v.effRec = some fr → ∀ imp ∈ fr.imports, imp.isStar = true

/-- the modules `f` pulls in -/
def succs (st : Index) (f : Path) : List Path :=
  match st.content f with
  | some v =>
    match v.effRec with
    | some fr =>
      fr.imports.filterMap (fun imp => st.resolveModule imp.modulePath f) ++
      fr.plugins.filterMap (fun m => st.resolveModule m f)
    | none => []
  | none => []

/-- the fixture names a module defines itself -/
def direct (st : Index) (t : Path) : List String := (alookup st.fileDefs t).getD []

/-- `Prov st f n`: `f` provides `n` through at least one import edge -/
inductive Prov (st : Index) : Path → String → Prop
  | here {f t n} : t ∈ succs st f → n ∈ direct st t → Prov st f n
  | there {f t n} : t ∈ succs st f → Prov st t n → Prov st f n

/-- a valid memo entry holds exactly what the file provides -/
def Coh (st : Index) : Prop :=
  ∀ f v t ver names, st.content f = some v → alookup st.impCache f = some (t, ver, names) →
    (t == v.text && ver == st.version) = true → ∀ n, n ∈ names ↔ Prov st f n

theorem coh_nil {st : Index} (h : st.impCache = []) : Coh st := by
  intro f v t ver names _ hl
  rw [h] at hl
  cases hl

theorem succs_eq_effRec (st : Index) (f : Path) :
    succs st f = match (st.content f).bind Version.effRec with
      | some fr => fr.imports.filterMap (fun imp => st.resolveModule imp.modulePath f) ++
          fr.plugins.filterMap (fun m => st.resolveModule m f)
      | none => [] := by
  unfold succs
  cases st.content f <;> rfl

theorem succs_eq {st : Index} {f : Path} {v : Version} (hc : st.content f = some v) :
    succs st f = v.edges.filterMap (fun e => st.resolveModule e.modulePath f) := by
  rw [succs_eq_effRec, hc, Option.bind_some]
  unfold Version.edges
  cases v.effRec with
  | none => rfl
  | some fr => exact (fr.filterMap_edges fun m => st.resolveModule m f).symm

theorem succs_nil_of_no_content {st : Index} {f : Path} (h : st.content f = none) : succs st f = [] := by
  unfold succs; rw [h]

theorem StarOnly.edges {st : Index} (h : StarOnly st) {f : Path} {v : Version} (hc : st.content f = some v) :
    ∀ e ∈ v.edges, e.isStar = true := by
  unfold Version.edges
  cases hp : v.effRec with
  | none => exact fun _ he => nomatch he
  | some fr => exact fun e he => (FileRec.mem_edges.mp he).elim (h f v fr hc hp e) fun ⟨_, _, heq⟩ => heq ▸ rfl

theorem resolveModule_memo (st : Index) (c : List (Path × (String × Nat × List String))) :
    ({ st with impCache := c } : Index).resolveModule = st.resolveModule :=
  ScanC.resolveModule_same ⟨rfl, rfl, rfl, rfl, fun _ => rfl⟩

theorem succs_memo (st : Index) (c : List (Path × (String × Nat × List String))) (f : Path) :
    succs { st with impCache := c } f = succs st f := by
  unfold succs
  rw [resolveModule_memo]
  rfl

theorem Prov.transport {a b : Index} (hs : ∀ g, succs a g = succs b g) (hd : ∀ t, direct a t = direct b t)
    {g : Path} {n : String} (h : Prov a g n) : Prov b g n := by
  induction h with
  | here ht hn => exact .here (hs _ ▸ ht) (hd _ ▸ hn)
  | there ht _ ih => exact .there (hs _ ▸ ht) ih

theorem prov_congr {a b : Index} (hs : ∀ g, succs a g = succs b g) (hd : ∀ t, direct a t = direct b t)
    (g : Path) (n : String) : Prov a g n ↔ Prov b g n :=
  ⟨Prov.transport hs hd, Prov.transport (fun g => (hs g).symm) (fun t => (hd t).symm)⟩

theorem prov_memo (st : Index) (c : List (Path × (String × Nat × List String))) (f : Path) (m : String) :
    Prov { st with impCache := c } f m ↔ Prov st f m :=
  prov_congr (succs_memo st c) (fun _ => rfl) f m

theorem StarOnly.congr {a b : Index} (h : ∀ x, (b.content x).bind Version.effRec = (a.content x).bind Version.effRec)
    (hs : StarOnly a) : StarOnly b := by
  intro x w fr hc hw imp hi
  have he := h x
  rw [hc, Option.bind_some, hw] at he
  obtain ⟨w0, h2, hw0⟩ := Option.bind_eq_some_iff.mp he.symm
  exact hs x w0 fr h2 hw0 imp hi

theorem starOnly_memo (st : Index) (c : List (Path × (String × Nat × List String))) (h : StarOnly st) :
    StarOnly { st with impCache := c } := h.congr fun _ => rfl

/-- **since the E12 repair a call below the top of a traversal does not touch the memo table** -/
theorem nested_state : ∀ (fuel : Nat) (st : Index) (f : Path) (vis : List Path), vis ≠ [] →
    (imported fuel st f vis).2.2 = st :=
  fun fuel st f vis h => (imported_post fuel st f vis).nested h

def Le (a b : Result) : Prop := (∀ n ∈ a.1, n ∈ b.1) ∧ (∀ g ∈ a.2.1, g ∈ b.2.1)

/-- the second alternative: after a memo hit on a file that pulls `t` in, `t` is not visited but everything
    it provides is gathered -/
def DoneT (st : Index) (r : Result) (t : Path) : Prop :=
  (∀ n ∈ direct st t, n ∈ r.1) ∧ (t ∈ r.2.1 ∨ ∀ n, Prov st t n → n ∈ r.1)

def Settled (st : Index) (r : Result) (x : Path) : Prop := ∀ t ∈ succs st x, DoneT st r t

theorem DoneT.mono {st : Index} {a b : Result} {t : Path} (h : Le a b) (hd : DoneT st a t) : DoneT st b t :=
  ⟨fun n hn => h.1 n (hd.1 n hn), hd.2.imp (h.2 t) fun hp n hn => h.1 n (hp n hn)⟩

theorem closed_complete {st : Index} {r : Result} (hall : ∀ x ∈ r.2.1, Settled st r x) :
    ∀ x n, Prov st x n → x ∈ r.2.1 → n ∈ r.1 := by
  intro x n hp
  induction hp with
  | here ht hn => exact fun hx => (hall _ hx _ ht).1 _ hn
  | there ht hp ih => exact fun hx => (hall _ hx _ ht).2.elim ih fun h => h _ hp

/-- what a call for `f` entered with `vis` guarantees about the names and the visited set (about the
    state: `ImpT.Post`) -/
structure Res (st : Index) (f : Path) (vis : List Path) (r : Result) : Prop where
  self : f ∈ r.2.1
  settled : ∀ x ∈ r.2.1, x ∉ vis → Settled st r x
  sound : ∀ n ∈ r.1, Prov st f n

theorem res_nil {st : Index} {f : Path} {vis : List Path} (hf : f ∈ vis) : Res st f vis ([], vis, st) :=
  { self := hf, settled := fun _ hx hxn => absurd hx hxn, sound := fun _ h => nomatch h }

theorem Res.finish {st : Index} {f : Path} {vis : List Path} {s : Result} {top : Bool} {v : Version}
    (h : Res st f vis s) : Res st f vis (finish top f v s) :=
  { h with }  -- `finish` changes the state only

theorem mem_unionNames {a b : List String} {n : String} : n ∈ unionNames a b ↔ n ∈ a ∨ n ∈ b := by
  unfold unionNames
  rw [List.mem_eraseDups, List.mem_append]

/-! While `f` is being expanded, the fold of `compute` keeps `Res st f (f :: vis)`: `f`, visited already, is
    exempt from `settled` until the fold has passed all its edges. -/

/-- one star edge: `r`, what the call for `t` returns, folded into the accumulator.  The conclusion has the
    shape `foldl_settles` asks of a step: the invariant kept, the edge's module done, and `Le`, by which
    what was done stays done -/
theorem absorb {st : Index} {f : Path} {vis : List Path} {acc r : Result} {t : Path} (ht : t ∈ succs st f)
    (hq : ComputeInv st (f :: vis) acc) (hfi : Res st f (f :: vis) acc) (hsub : ∀ g, g ∈ acc.2.1 → g ∈ r.2.1)
    (hr : Res st t acc.2.1 r) :
    let acc' : Result := (unionNames (unionNames acc.1 (direct st t)) r.1, r.2.1, st)
    (ComputeInv st (f :: vis) acc' ∧ Res st f (f :: vis) acc') ∧ DoneT st acc' t ∧ Le acc acc' := by
  intro acc'
  have hacc : Le acc acc' := ⟨fun x hx => mem_unionNames.mpr (Or.inl (mem_unionNames.mpr (Or.inl hx))), hsub⟩
  have hres : Le r acc' := ⟨fun m hm => mem_unionNames.mpr (Or.inr hm), fun _ h => h⟩
  have hinv : ComputeInv st (f :: vis) acc' := ⟨rfl, fun g hg => hsub g (hq.sub g hg)⟩
  have hdone : DoneT st acc' t :=
    ⟨fun m hm => mem_unionNames.mpr (Or.inl (mem_unionNames.mpr (Or.inr hm))), Or.inl hr.self⟩
  refine ⟨⟨hinv, { self := hsub f hfi.self, settled := fun x hx hxn => ?_, sound := fun m hm => ?_ }⟩, hdone, hacc⟩
  · by_cases hxa : x ∈ acc.2.1
    · exact fun t ht => (hfi.settled x hxa hxn t ht).mono hacc
    · exact fun t ht => (hr.settled x hx hxa t ht).mono hres
  · rcases mem_unionNames.mp hm with hm | hm
    · rcases mem_unionNames.mp hm with hm | hm
      · exact hfi.sound m hm
      · exact Prov.here ht hm
    · exact Prov.there ht (hr.sound m hm)

theorem expand {st : Index} {f : Path} {vis : List Path} {n : Nat} (hstar : StarOnly st)
    (hrec : ∀ t vis', mu st vis' < n → Res st t vis' (imported n st t vis'))
    (hmu : mu st (f :: vis) < n) {v : Version} (hc : st.content f = some v) :
    Res st f vis (imported.compute vis.isEmpty n st f (f :: vis) v) := by
  rw [compute_eq]
  obtain ⟨⟨_, p⟩, d, _⟩ := foldl_settles (g := edgeStep (imported n) f)
    (P := fun acc => ComputeInv st (f :: vis) acc ∧ Res st f (f :: vis) acc)
    (D := fun (e : ImportRec) acc => ∀ t, st.resolveModule e.modulePath f = some t → DoneT st acc t)
    v.edges ([], f :: vis, st)
    ⟨⟨rfl, fun _ h => h⟩, res_nil List.mem_cons_self⟩
    (fun b e he ⟨hq, hb⟩ => by
      cases hr : st.resolveModule e.modulePath f with
      | none => rw [edgeStep_none (hq.state ▸ hr)]; exact ⟨⟨hq, hb⟩, fun _ h => (nomatch h), fun _ hd => hd⟩
      | some t =>
        -- the call for `t` is below the top: `f` is visited
        have hp := imported_post n st t b.2.1
        rw [edgeStep_star (hq.state ▸ hr) (hstar.edges hc e he), hq.state, hp.nested (List.ne_nil_of_mem hb.self)]
        obtain ⟨h1, h2, h3⟩ := absorb (succs_eq hc ▸ List.mem_filterMap.mpr ⟨e, he, hr⟩) hq hb hp.sub
          (hrec t b.2.1 (Nat.lt_of_le_of_lt (mu_antitone st hq.sub) hmu))
        exact ⟨h1, fun t' ht' => by cases ht'; exact h2, fun _ hd t' ht' => (hd t' ht').mono h3⟩)
  -- `f` itself is settled by the fold, every other file by the call that visited it
  refine Res.finish { p with settled := fun x hx hxn => ?_ }
  by_cases hxf : x = f
  · intro t ht
    rw [hxf, succs_eq hc] at ht
    obtain ⟨e, he, hr⟩ := List.mem_filterMap.mp ht
    exact d e he t hr
  · exact p.settled x hx fun hm => (List.mem_cons.mp hm).elim hxf hxn

/-- a call that visits `f` only -/
theorem res_leaf {st : Index} {f : Path} {vis : List Path} {N : List String} (hs : Settled st (N, f :: vis, st) f)
    (hN : ∀ n ∈ N, Prov st f n) : Res st f vis (N, f :: vis, st) := by
  refine ⟨List.mem_cons_self, fun x hx hxn => ?_, hN⟩
  cases (List.mem_cons.mp hx).resolve_right hxn
  exact hs

theorem nested_res (st : Index) (hstar : StarOnly st) (hcoh : Coh st) :
    ∀ (n : Nat) (f : Path) (vis : List Path), mu st vis < n → Res st f vis (imported n st f vis) := by
  intro n
  induction n with
  | zero => exact fun _ _ h => absurd h (Nat.not_lt_zero _)
  | succ n ih =>
    intro f vis hmu
    refine imported_cases (motive := fun r => Res st f vis (r n)) st f vis
      (seen := res_nil)
      (absent := fun _ hc => res_leaf (fun t ht => by rw [succs_nil_of_no_content hc] at ht; cases ht) fun _ h => nomatch h)
      (hit := fun _ hc hl hv => ?_) (miss := fun v hf hc => ?_)
    · have hiff := hcoh f _ _ _ _ hc hl hv
      exact res_leaf (fun t ht => ⟨fun m hm => (hiff m).mpr (.here ht hm), Or.inr fun m hm => (hiff m).mpr (.there ht hm)⟩)
        fun m hm => (hiff m).mp hm
    · have hlt : mu st (f :: vis) < n :=
        Nat.lt_of_lt_of_le (mu_cons_lt st f vis (mem_files_of_content st f v hc) hf) (Nat.le_of_lt_succ hmu)
      exact expand hstar ih hlt hc

theorem top_query (st : Index) (hstar : StarOnly st) (hcoh : Coh st) (f : Path) (n : Nat) (hn : mu st [] < n) (m : String) :
    m ∈ (imported n st f []).1 ↔ Prov st f m := by
  have hr := nested_res st hstar hcoh n f [] hn
  exact ⟨hr.sound m, fun h => closed_complete (fun x hx => hr.settled x hx List.not_mem_nil) f m h hr.self⟩

end ImpC

open ImpC ImpT in
/-- **C14 (imports: exactly the closure).** For every index whose recorded imports are star
    imports / `pytest_plugins` entries and whose memo table is coherent, and for every file `f`:
    the names `get_imported_fixtures` answers for `f` are exactly the fixture names `f` provides
    through its import edges — through chains of any length, diamonds, self imports and import
    cycles.  Nothing reachable is missing, nothing unreachable is included. -/
theorem C14_imported_is_closure (st : Index) (hstar : StarOnly st) (hcoh : Coh st) (f : Path) :
    ∀ m, m ∈ (Index.imported st.fuelFor st f []).1 ↔ Prov st f m :=
  top_query st hstar hcoh f _ (fuel_ok st [])

open ImpC ImpT in
/-- **C14 (… and the memo table stays coherent)**: after the query, every valid memo entry still
    holds exactly what its file provides, and nothing but the memo table has changed — so the next
    query, for whatever file, is answered with the closure again. -/
theorem C14_imported_keeps_coherence (st : Index) (hstar : StarOnly st) (hcoh : Coh st) (f : Path) :
    ∃ c, (Index.imported st.fuelFor st f []).2.2 = { st with impCache := c } ∧
      Coh { st with impCache := c } ∧ StarOnly { st with impCache := c } := by
  rcases (imported_post st.fuelFor st f []).state with e | ⟨_, v, _, e⟩
  · exact ⟨st.impCache, e, hcoh, hstar⟩
  · refine ⟨_, e, ?_, starOnly_memo st _ hstar⟩
    intro g w t ver names hcg hl hv m
    rw [prov_memo]
    rw [alookup_ainsert] at hl
    split at hl
    · subst g; cases hl; exact C14_imported_is_closure st hstar hcoh f m
    · exact hcoh g w t ver names hcg hl hv m

namespace ImpC
open Index

/-- a sequence of queries, each on the state the previous one left -/
def queries (st : Index) : List Path → List (Path × List String)
  | [] => []
  | f :: fs => (f, (imported st.fuelFor st f []).1) :: queries (imported st.fuelFor st f []).2.2 fs

end ImpC

open ImpC ImpT in
/-- **C14 (the answers do not depend on the order of the questions).** Starting from a coherent
    memo table (in particular an empty one), whatever files are asked about and in whatever order:
    every answer is the closure of its file.  (Before the E12 repair a set cut short by the
    circular-import guard was memoised, and the answers depended on which module had been asked
    about first: `corpus/C07/e12_mutual_imports.case`.) -/
theorem C14_any_query_order (fs : List Path) : ∀ (st : Index), StarOnly st → Coh st →
    ∀ p ∈ queries st fs, ∀ m, m ∈ p.2 ↔ Prov st p.1 m := by
  induction fs with
  | nil => intro st _ _ p hp; cases hp
  | cons f fs ih =>
    intro st hstar hcoh p hp m
    unfold queries at hp
    rcases List.mem_cons.mp hp with rfl | hp
    · exact C14_imported_is_closure st hstar hcoh f m
    · obtain ⟨c, hst, hcoh', hstar'⟩ := C14_imported_keeps_coherence st hstar hcoh f
      rw [hst] at hp
      exact (ih _ hstar' hcoh' p hp m).trans (prov_memo st c p.1 m)

/-- the premises are satisfiable: an empty memo table is coherent -/
example (st : Index) (h : st.impCache = []) : ImpC.Coh st := ImpC.coh_nil h

namespace ImpC
open Index

def MemoBounded (st : Index) : Prop :=
  ∀ f t ver names, alookup st.impCache f = some (t, ver, names) → ver ≤ st.version

theorem coh_of_older (st : Index)
    (h : ∀ f t ver names, alookup st.impCache f = some (t, ver, names) → ver < st.version) : Coh st := by
  intro f v t ver names _ hl hv
  simp only [Bool.and_eq_true, beq_iff_eq] at hv
  exact absurd (hv.2 ▸ h f t ver names hl) (Nat.lt_irrefl _)

end ImpC

open ImpC in
/-- **C14 / C07 (every analysis leaves the memo coherent).** Every analysis - of a text that
    parses or of one that does not - bumps the definitions version and leaves the memo table
    alone, so every entry - none being newer than the index (`MemoBounded`) - becomes invalid: the
    next query recomputes, and by `C14_imported_is_closure` answers the closure of the NEW
    contents. (Before the repair `f20b0c0` an analysis that failed to parse kept the version: what
    had been memoised for the files that import the document was answered although the document's
    imports no longer counted.) -/
theorem C14_coherent_after_analysis (pfx : Path) (cl : Bool) (st : Index) (f : Path) (v : Version)
    (hb : MemoBounded st) :
    Coh (Index.analyze pfx cl st f v).1 ∧ MemoBounded (Index.analyze pfx cl st f v).1 := by
  have hlt : ∀ g t ver names, alookup (Index.analyze pfx cl st f v).1.impCache g = some (t, ver, names) →
      ver < (Index.analyze pfx cl st f v).1.version := fun g t ver names hl =>
    Nat.lt_of_le_of_lt (hb g t ver names ((analyze_frame pfx cl st f v).impCache ▸ hl)) (analyze_version_lt pfx cl st f v)
  exact ⟨coh_of_older _ hlt, fun g t ver names hl => Nat.le_of_lt (hlt g t ver names hl)⟩

open ImpC ImpT in
/-- … and a query keeps the bound: the entry it writes carries the current version -/
theorem C14_query_keeps_bound (st : Index) (hstar : StarOnly st) (hcoh : Coh st) (hb : MemoBounded st) (f : Path) :
    MemoBounded (Index.imported st.fuelFor st f []).2.2 := by
  -- the statement carries `hstar`, `hcoh` although what a query does to the state (`Post.state`) holds on every index
  rcases (imported_post st.fuelFor st f []).state with e | ⟨_, v, _, e⟩ <;> rw [e]
  · exact hb
  · intro g t ver names hl
    rw [alookup_ainsert] at hl
    split at hl
    · cases hl; exact Nat.le_refl _
    · exact hb g t ver names hl

open ImpC ImpT in
/-- **C07 for the import memo (warm = cold).** A query answered with a coherent memo table returns
    the same set of names as the same query on the same index with an EMPTY memo table. -/
theorem C07_imported_warm_eq_cold (st : Index) (hstar : StarOnly st) (hcoh : Coh st) (f : Path) :
    ∀ m, m ∈ (Index.imported st.fuelFor st f []).1 ↔
      m ∈ (Index.imported st.fuelFor { st with impCache := [] } f []).1 := by
  intro m
  have h2 := C14_imported_is_closure { st with impCache := [] } (starOnly_memo st [] hstar) (coh_nil rfl) f m
  rw [prov_memo] at h2
  exact (C14_imported_is_closure st hstar hcoh f m).trans h2.symm

end PLS
