/-
  C14 / C07 — resolving a dotted module path to a file (`find_module_file`): a non-final part only has to be
  a directory (namespace packages), and what the editor has cached never changes whether `X.py` or
  `X/__init__.py` is meant.
-/
import PLS.Lemmas.Imports
namespace PLS
open Index

/-- the final part: `X.py`, known from disk or cache, is the answer — whatever is known about `X/__init__.py` -/
theorem C14_module_before_package (st : Index) (last : String) (base : Path)
    (h : ahas st.disk (base ++ [last ++ ".py"]) = true ∨ ahas st.cache (base ++ [last ++ ".py"]) = true) :
    findModuleFile st [last] base = some (base ++ [last ++ ".py"]) := by
  rw [findModuleFile_single, if_pos (Bool.or_eq_true_iff.mpr h)]

/-- … and the package is the answer exactly when there is no such module -/
theorem C14_package_when_no_module (st : Index) (last : String) (base : Path)
    (hd : ahas st.disk (base ++ [last ++ ".py"]) = false) (hc : ahas st.cache (base ++ [last ++ ".py"]) = false)
    (h : ahas st.disk (base ++ [last, "__init__.py"]) = true ∨ ahas st.cache (base ++ [last, "__init__.py"]) = true) :
    findModuleFile st [last] base = some (base ++ [last, "__init__.py"]) := by
  rw [findModuleFile_single, if_neg (by rw [hd, hc]; exact Bool.false_ne_true), if_pos (Bool.or_eq_true_iff.mpr h)]

/-- **C14 (namespace packages).** A dotted path `d₁.d₂.….dₙ.last` below `base` resolves to `base/d₁/…/dₙ/last.py`
    as soon as every `base/d₁/…/dₖ` is a directory and the module file exists: no `__init__.py` anywhere. -/
theorem C14_dotted_path_through_directories (st : Index) (last : String) :
    ∀ (dirs : List String) (base : Path),
      (∀ k, 0 < k → k ≤ dirs.length → st.isDir (base ++ dirs.take k) = true) →
      (ahas st.disk (base ++ dirs ++ [last ++ ".py"]) = true ∨ ahas st.cache (base ++ dirs ++ [last ++ ".py"]) = true) →
      findModuleFile st (dirs ++ [last]) base = some (base ++ dirs ++ [last ++ ".py"]) := by
  intro dirs
  induction dirs with
  | nil =>
    intro base _ h
    rw [List.append_nil] at h ⊢
    exact C14_module_before_package st last base h
  | cons d ds ih =>
    intro base hdir h
    have hd : st.isDir (base ++ [d]) = true := hdir 1 Nat.one_pos (Nat.succ_le_succ (Nat.zero_le _))
    rw [List.cons_append, findModuleFile_cons st d base (List.append_ne_nil_of_right_ne_nil _ (List.cons_ne_nil _ _)),
      if_pos hd]
    rw [List.append_cons base d ds] at h ⊢
    refine ih (base ++ [d]) (fun k hk hkl => ?_) h
    have := hdir (k + 1) (Nat.succ_pos k) (Nat.succ_le_succ hkl)
    rwa [List.take_succ_cons, List.append_cons] at this

/-- non-vacuity: `fixtures.db` below the root, `fixtures/` a directory without `__init__.py` -/
example (v : Version) :
    findModuleFile { (default : Index) with disk := [(["fixtures", "db.py"], v)], dirs := [["fixtures"]] }
      ["fixtures", "db"] [] = some ["fixtures", "db.py"] := by
  simp [findModuleFile, isDir, ahas]

end PLS
