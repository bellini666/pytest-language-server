/-
  C14 / C08 — which files the scan marks as plugin files (`scan_imported_fixture_modules`,
  modelled as `Index.importScan`): exactly those reachable from the initial plugin files along star
  imports and `pytest_plugins` entries, whatever order the work lists are visited in.  (Before the
  repair `2bbe7de` this was false: a module walked before its importer marked it never passed the
  status on.)
-/
import PLS.Props.C12S
import PLS.Props.C14
namespace PLS
namespace ScanC
open Index ScanT

/-- `SameFS a b`, and the same contents -/
structure Same (a b : Index) : Prop where
  disk : b.disk = a.disk
  dirs : b.dirs = a.dirs
  sp : b.sitePackages = a.sitePackages
  ed : b.editable = a.editable
  ex : ∀ x, (ahas b.disk x || ahas b.cache x) = (ahas a.disk x || ahas a.cache x)
  /-- what a file's text parses to (the version kept in the cache may differ in what it carries) -/
  ct : ∀ f, (b.content f).bind (·.parsed) = (a.content f).bind (·.parsed)

theorem Same.refl (a : Index) : Same a a := ⟨rfl, rfl, rfl, rfl, fun _ => rfl, fun _ => rfl⟩

theorem Same.trans {a b c : Index} (h1 : Same a b) (h2 : Same b c) : Same a c :=
  ⟨h2.disk.trans h1.disk, h2.dirs.trans h1.dirs, h2.sp.trans h1.sp, h2.ed.trans h1.ed,
   fun x => (h2.ex x).trans (h1.ex x), fun f => (h2.ct f).trans (h1.ct f)⟩

theorem Same.fs {a b : Index} (h : Same a b) : SameFS a b := { h with }

theorem Same.setPlugin {a b : Index} (h : Same a b) (pl : List Path) : Same a { b with pluginFiles := pl } :=
  { h with }  -- no field reads `pluginFiles`

/-- the files `f` passes plugin status on to -/
def marksOf (st : Index) (f : Path) : List Path :=
  match (st.content f).bind (·.parsed) with
  | some fr =>
    (fr.imports.filter (·.isStar)).filterMap (fun imp => st.resolveModule imp.modulePath f) ++
    fr.plugins.filterMap (fun m => st.resolveModule m f)
  | none => []

theorem marksOf_same {a b : Index} (h : Same a b) (f : Path) : marksOf b f = marksOf a f := by
  unfold marksOf
  rw [h.ct f, resolveModule_same h.fs]

theorem Same.scanEdges {a b : Index} (h : Same a b) (f : Path) : b.scanEdges f = a.scanEdges f := by
  unfold Index.scanEdges; rw [h.ct f]

theorem mem_marksOf {st : Index} {f t : Path} : t ∈ marksOf st f ↔
    ∃ e ∈ st.scanEdges f, e.isStar = true ∧ st.resolveModule e.modulePath f = some t := by
  unfold marksOf Index.scanEdges
  cases (st.content f).bind (·.parsed) with
  | none => simp
  | some fr =>
    simp only [List.mem_append, List.mem_filterMap, List.mem_filter, FileRec.mem_edges]
    constructor
    · rintro (⟨e, ⟨he, hs⟩, hr⟩ | ⟨m, hm, hr⟩)
      · exact ⟨e, Or.inl he, hs, hr⟩
      · exact ⟨_, Or.inr ⟨m, hm, rfl⟩, rfl, hr⟩
    · rintro ⟨e, he | ⟨m, hm, rfl⟩, hs, hr⟩
      · exact Or.inl ⟨e, ⟨he, hs⟩, hr⟩
      · exact Or.inr ⟨m, hm, hr⟩

inductive Reach (st0 : Index) (P0 : List Path) : Path → Prop
  | base {g : Path} : g ∈ P0 → Reach st0 P0 g
  | step {f t : Path} : Reach st0 P0 f → t ∈ marksOf st0 f → Reach st0 P0 t

/-- `todo`: what is left of this round's list; `ex`: the file exempt from `closed`, the one being walked
    right now (its own marks are still being made), `none` between two walks -/
structure Inv (st0 : Index) (P0 : List Path) (ex : Option Path) (todo : List Path) (acc : ScanAcc) : Prop where
  same : Same st0 acc.st
  /-- a processed plugin file has passed its status on -/
  closed : ∀ g, g ∈ acc.processed → ex ≠ some g → g ∈ acc.st.pluginFiles →
    ∀ t, t ∈ marksOf st0 g → t ∈ acc.st.pluginFiles
  /-- no plugin file is forgotten -/
  plug : ∀ g, g ∈ acc.st.pluginFiles → g ∈ acc.processed ∨ g ∈ todo ∨ g ∈ acc.rewalk ∨ g ∈ acc.news
  reach : ∀ g, g ∈ acc.st.pluginFiles → Reach st0 P0 g
  /-- with `newsNodup`: each analysis of a new module caches a file that was not cached (`analyzeAll_same`) -/
  newsFresh : ∀ t, t ∈ acc.news → ahas acc.st.cache t = false
  newsNodup : acc.news.Nodup

theorem round_mono {toCheck : List Path} {acc : ScanAcc} {g : Path} (hg : g ∈ acc.st.pluginFiles) :
    g ∈ (toCheck.foldl roundStep acc).st.pluginFiles :=
  round_ind (P := fun b => g ∈ b.st.pluginFiles) hg (fun hb => hb)
    fun hb _ => mem_pluginFiles_importStep.mpr (Or.inl hb)

theorem importStep_inv {st0 : Index} {P0 : List Path} {ex : Option Path} {todo : List Path}
    {mark : Bool} {acc : ScanAcc} {t : Path}
    (hr : mark = true → Reach st0 P0 t)
    (h : Inv st0 P0 ex todo acc) : Inv st0 P0 ex todo (importStep mark acc t) where
  same := by rw [importStep_st_eq]; exact h.same.setPlugin _
  closed g hg hex hgp x hx := by
    -- a file that stays processed was a plugin file before: the step that marks its target takes
    -- it out of `processed`
    obtain ⟨hg1, hn⟩ := mem_processed_importStep.mp hg
    have hgp' : g ∈ acc.st.pluginFiles := (mem_pluginFiles_importStep.mp hgp).elim id
      fun ⟨hm, e⟩ => Decidable.not_not.mp fun hp => hn ⟨hm, e ▸ hp, e⟩
    exact mem_pluginFiles_importStep.mpr (Or.inl (h.closed g hg1 hex hgp' x hx))
  plug g hg := by
    by_cases hgt : g = t
    · subst hgt; exact (importStep_queued mark acc g).imp_right Or.inr
    · have hg' : g ∈ acc.st.pluginFiles := (mem_pluginFiles_importStep.mp hg).resolve_right fun hh => hgt hh.2
      exact (h.plug g hg').imp (fun hc => mem_processed_importStep.mpr ⟨hc, fun hh => hgt hh.2.2⟩)
        (Or.imp_right (Or.imp (fun hc => mem_rewalk_importStep.mpr (Or.inl hc))
          fun hc => mem_news_importStep.mpr (Or.inl hc)))
  reach g hg := (mem_pluginFiles_importStep.mp hg).elim (h.reach g) fun ⟨hm, e⟩ => e ▸ hr hm
  newsFresh x hx := by
    rw [importStep_st_eq]
    rcases mem_news_importStep.mp hx with hx | ⟨hc, rfl⟩
    · exact h.newsFresh x hx
    · have := (Bool.and_eq_true_iff.mp hc).2
      rwa [Bool.not_eq_true'] at this
  newsNodup := nodup_pushNew h.newsNodup

theorem importScanFile_inv {st0 : Index} {P0 : List Path} {f : Path} {todo : List Path} {acc : ScanAcc}
    (h : Inv st0 P0 (some f) todo acc) :
    Inv st0 P0 (some f) todo (importScanFile f acc) ∧
    (f ∈ acc.st.pluginFiles → ∀ t, t ∈ marksOf st0 f → t ∈ (importScanFile f acc).st.pluginFiles) := by
  rw [importScanFile_eq, h.same.scanEdges f]
  -- every marking step leaves its target marked, and marks stay
  refine (foldl_settles (P := Inv st0 P0 (some f) todo)
    (D := fun (e : ImportRec) b => (acc.st.pluginFiles.contains f && e.isStar) = true →
      ∀ t, st0.resolveModule e.modulePath f = some t → t ∈ b.st.pluginFiles)
    _ _ h fun b e he hb => ?_).imp_right fun hd hf t ht => ?_
  · rw [resolveModule_same hb.same.fs]
    cases hr : st0.resolveModule e.modulePath f with
    | none => exact ⟨hb, fun _ t ht => (nomatch ht), fun _ hd => hd⟩
    | some t =>
      refine ⟨importStep_inv (fun hm => ?_) hb,
        fun hm t' ht' => by cases ht'; exact mem_pluginFiles_importStep.mpr (Or.inr ⟨hm, rfl⟩),
        fun _ hd hm t' ht' => mem_pluginFiles_importStep.mpr (Or.inl (hd hm t' ht'))⟩
      obtain ⟨hm1, hm2⟩ := Bool.and_eq_true_iff.mp hm
      exact Reach.step (h.reach f (List.contains_iff_mem.mp hm1)) (mem_marksOf.mpr ⟨e, he, hm2, hr⟩)
  · obtain ⟨e, he, hs, hr⟩ := mem_marksOf.mp ht
    exact hd.1 e he (Bool.and_eq_true_iff.mpr ⟨List.contains_iff_mem.mpr hf, hs⟩) t hr

/-- two uses, both in `roundStep_inv`: the head `f` was processed already (`p' = acc.processed`, `ex = none`),
    or it is added and is the file being walked (`p' = acc.processed ++ [f]`, `ex = some f`) -/
theorem Inv.pop {st0 : Index} {P0 : List Path} {f : Path} {l : List Path} {acc : ScanAcc} {ex : Option Path} {p' : List Path}
    (h : Inv st0 P0 none (f :: l) acc) (hf : f ∈ p') (hsub : ∀ x, x ∈ acc.processed → x ∈ p')
    (hback : ∀ g, g ∈ p' → ex ≠ some g → g ∈ acc.processed) : Inv st0 P0 ex l { acc with processed := p' } := by
  refine { h with closed := fun g hg hex => h.closed g (hback g hg hex) nofun, plug := fun g hg => ?_ }
  rcases h.plug g hg with hh | hh | hh
  · exact Or.inl (hsub g hh)
  · exact (List.mem_cons.mp hh).elim (fun e => Or.inl (e ▸ hf)) fun hh => Or.inr (Or.inl hh)
  · exact Or.inr (Or.inr hh)

theorem self_not_marked {f : Path} {acc : ScanAcc} (h : f ∈ (importScanFile f acc).st.pluginFiles) :
    f ∈ acc.st.pluginFiles := by
  cases hP : acc.st.pluginFiles.contains f with
  | true => exact List.contains_iff_mem.mp hP
  | false => rwa [(C14_plugin_mark_propagation f acc hP).1] at h

theorem roundStep_inv {st0 : Index} {P0 : List Path} {f : Path} {l : List Path} {acc : ScanAcc}
    (h : Inv st0 P0 none (f :: l) acc) : Inv st0 P0 none l (roundStep acc f) := by
  by_cases hc : f ∈ acc.processed
  · rw [roundStep_done hc]
    exact h.pop hc (fun _ hx => hx) fun _ hg _ => hg
  · rw [roundStep_walk hc]
    obtain ⟨r1, r2⟩ := importScanFile_inv (h.pop List.mem_concat_self
      (fun _ hx => List.mem_append_left _ hx)
      fun g hg hex => (List.mem_append.mp hg).resolve_right fun hg => hex (by rw [List.mem_singleton.mp hg]))
    refine { r1 with closed := fun g hg _ hgp t ht => ?_ }
    by_cases hgf : g = f
    · subst hgf
      exact r2 (self_not_marked hgp) t ht
    · exact r1.closed g hg (fun e => hgf (Option.some.inj e).symm) hgp t ht

theorem round_inv {st0 : Index} {P0 : List Path} {toCheck : List Path} {acc : ScanAcc}
    (h : Inv st0 P0 none toCheck acc) : Inv st0 P0 none [] (toCheck.foldl roundStep acc) := by
  induction toCheck generalizing acc with
  | nil => exact h
  | cons f l ih => exact ih (roundStep_inv h)

theorem analyzeNew_same (pfx : Path) {st0 st : Index} {m : Path} (hs : Same st0 st) (hm : ahas st.cache m = false) :
    Same st0 (analyzeNew pfx st m) := by
  fun_cases analyzeNew pfx st m with
  | case2 | case3 => exact hs  -- not readable, or not on disk
  | case1 v hl =>  -- `v`, read from disk, is analysed
    obtain ⟨_, hcache⟩ := analyze_cd pfx false st m v
    have hfr := analyze_frame pfx false st m v
    refine hs.trans {
      disk := hfr.disk, dirs := hfr.dirs, sp := hfr.sitePackages, ed := hfr.editable,
      ex := fun x => ?_, ct := fun x => ?_ }
    · rw [hfr.disk, hcache]
      exact ex_ainsert _ (by rw [ahas_of_alookup hl, Bool.true_or]) x
    · unfold content
      rw [hfr.disk, hcache, alookup_ainsert]
      by_cases hx : x = m
      · subst hx
        rw [if_pos rfl, alookup_of_not_ahas hm, hl]
        exact (cachedAs_parsed st x v).1
      · rw [if_neg hx]

theorem analyzeAll_same (pfx : Path) {st0 : Index} {news : List Path} {st : Index} (hs : Same st0 st)
    (hf : ∀ t, t ∈ news → ahas st.cache t = false) (hnd : news.Nodup) :
    Same st0 (news.foldl (analyzeNew pfx) st) := by
  induction news generalizing st with
  | nil => exact hs
  | cons m ms ih =>
    have hnd' := List.nodup_cons.mp hnd
    refine ih (analyzeNew_same pfx hs (hf m List.mem_cons_self)) (fun t ht => ?_) hnd'.2
    refine Bool.eq_false_iff.mpr fun hc => (analyzeNew_cache pfx st m t hc).elim (fun h1 => ?_) fun h1 => hnd'.1 (h1 ▸ ht)
    rw [hf t (List.mem_cons_of_mem _ ht)] at h1
    cases h1

theorem Inv.next (pfx : Path) {st0 : Index} {P0 : List Path} {r : ScanAcc} (hi : Inv st0 P0 none [] r) :
    Inv st0 P0 none (r.news ++ r.rewalk) (roundStart (r.news.foldl (analyzeNew pfx) r.st) r.processed r.re) := by
  have hpf := analyzeAll_pf pfx r.news r.st
  refine {
    same := analyzeAll_same pfx hi.same hi.newsFresh hi.newsNodup, closed := hpf ▸ hi.closed, plug := fun g hg => ?_,
    reach := hpf ▸ hi.reach, newsFresh := fun _ ht => (nomatch ht), newsNodup := List.nodup_nil }
  rcases hi.plug g (hpf ▸ hg) with h1 | h1 | h1 | h1  -- processed, to do, `rewalk`, `news`
  · exact Or.inl h1
  · cases h1
  · exact Or.inr (Or.inl (List.mem_append_right _ h1))
  · exact Or.inr (Or.inl (List.mem_append_left _ h1))

theorem Inv.done {st0 : Index} {P0 : List Path} {acc : ScanAcc} (hi : Inv st0 P0 none [] acc) (hn : acc.news = [])
    (hr : acc.rewalk = []) : ∀ g, g ∈ acc.st.pluginFiles → ∀ t, t ∈ marksOf st0 g → t ∈ acc.st.pluginFiles := by
  intro g hg t ht
  rcases hi.plug g hg with hh | hh | hh | hh  -- processed, to do, `rewalk`, `news`
  · exact hi.closed g hh nofun hg t ht
  · cases hh
  · rw [hr] at hh; cases hh
  · rw [hn] at hh; cases hh

theorem importScan_closed {pfx : Path} {st0 : Index} {P0 : List Path} {st : Index} {toCheck processed re : List Path}
    {res : Index × List Path} (hrun : Run pfx st toCheck processed re res) :
    Inv st0 P0 none toCheck (roundStart st processed re) →
    (∀ g, g ∈ res.1.pluginFiles → Reach st0 P0 g) ∧
    (∀ g, g ∈ res.1.pluginFiles → ∀ t, t ∈ marksOf st0 g → t ∈ res.1.pluginFiles) ∧
    (∀ g, g ∈ st.pluginFiles → g ∈ res.1.pluginFiles) := by
  induction hrun with
  | stop hr hs =>
    subst hr
    intro hinv
    simp only [Bool.and_eq_true, List.isEmpty_iff] at hs
    exact ⟨(round_inv hinv).reach, (round_inv hinv).done hs.1 hs.2, fun _ hg => round_mono hg⟩
  | next hr _ _ ih =>
    subst hr
    intro hinv
    obtain ⟨hreach, hclosed, hkeep⟩ := ih ((round_inv hinv).next pfx)
    exact ⟨hreach, hclosed, fun g hg => hkeep g (by rw [analyzeAll_pf]; exact round_mono hg)⟩

end ScanC

open ScanC ScanT in
/-- **C14 / C08 (the plugin files the scan ends with are exactly the closure).** Start the import
    scan on an index in which every plugin file is among the files to check (what `scan_workspace`
    does: the entry-point modules were analysed by the virtualenv phase) - whatever else is cached
    already, for instance documents opened in the editor before the scan - with enough rounds.
    Then a file ends up marked as a plugin file IF AND ONLY IF it can be reached from an initial
    plugin file by following star imports and `pytest_plugins` entries - chains of any length,
    diamonds, cycles. -/
theorem C14_plugin_files_are_the_closure (pfx : Path) (U : List Path) (st : Index) (roots : List Path)
    (hdisk : ∀ k, ahas st.disk k = true → k ∈ U) (hcache : ∀ k, ahas st.cache k = true → k ∈ U)
    (hT : ∀ f, f ∈ roots → f ∈ U)
    (hp : ∀ g, g ∈ st.pluginFiles → g ∈ roots)
    (m : Nat) (hm : 3 * U.length + 1 ≤ m) (g : Path) :
    g ∈ (Index.importScan pfx m st roots [] []).1.pluginFiles ↔ Reach st st.pluginFiles g := by
  have hmu : mu U [] st.pluginFiles < m := Nat.lt_of_lt_of_le (Nat.lt_succ_of_le (mu_le U [] st.pluginFiles)) hm
  obtain ⟨hreach, hclosed, hkeep⟩ := importScan_closed (st0 := st) (P0 := st.pluginFiles)
    (run_of_fuel pfx U m st roots [] [] { cacheU := hcache, diskU := hdisk } hT hmu)
    { same := Same.refl st, closed := fun _ hg => (nomatch hg), plug := fun g hg => Or.inr (Or.inl (hp g hg)),
      reach := fun _ hg => Reach.base hg, newsFresh := fun _ ht => (nomatch ht), newsNodup := List.nodup_nil }
  constructor
  · exact hreach g
  · intro hr
    induction hr with
    | base hg => exact hkeep _ hg
    | step _ ht ih => exact hclosed _ ih _ ht

open ScanC ScanT in
/-- **C08 (the scan's plugin classification does not depend on the visiting order).** Two runs of
    the import scan on the same index whose lists of files to check contain the same files (the
    initial plugin files among them) - in any order, with any repetitions - mark the same files as
    plugin files. -/
theorem C08_plugin_files_order_independent (pfx : Path) (U : List Path) (st : Index) (roots roots' : List Path)
    (hdisk : ∀ k, ahas st.disk k = true → k ∈ U) (hcache : ∀ k, ahas st.cache k = true → k ∈ U)
    (hT : ∀ f, f ∈ roots → f ∈ U) (hperm : ∀ f, f ∈ roots ↔ f ∈ roots')
    (hp : ∀ g, g ∈ st.pluginFiles → g ∈ roots)
    (m m' : Nat) (hm : 3 * U.length + 1 ≤ m) (hm' : 3 * U.length + 1 ≤ m') (g : Path) :
    g ∈ (Index.importScan pfx m st roots [] []).1.pluginFiles ↔
    g ∈ (Index.importScan pfx m' st roots' [] []).1.pluginFiles := by
  rw [C14_plugin_files_are_the_closure pfx U st roots hdisk hcache hT hp m hm g,
    C14_plugin_files_are_the_closure pfx U st roots' hdisk hcache (fun f hf => hT f ((hperm f).mpr hf))
      (fun g hg => (hperm g).mp (hp g hg)) m' hm' g]

namespace ScanC
open Index

def exVersion (imps : List ImportRec) (pl : List String) : Version :=
  { text := "", parsed := some { events := [], modNames := [], imports := imps, plugins := pl } }

/-- `plugin.py → lvl1.py → lvl2.py`: a star import, then `pytest_plugins` -/
def exIndex : Index :=
  let files : List (Path × Version) :=
    [ (["lvl2.py"], exVersion [] []),
      (["lvl1.py"], exVersion [] ["lvl2"]),
      (["plugin.py"], exVersion [⟨".lvl1", true, [], []⟩] []) ]
  { disk := files, cache := files, pluginFiles := [["plugin.py"]] }

def exRoots : List Path := [["lvl2.py"], ["lvl1.py"], ["plugin.py"]]

/-- visited innermost first - the order in which the loop before `2bbe7de` marked `lvl1.py` only -
    every module of the chain ends up a plugin file (a test of the definitions) -/
example : (importScan [] 10 exIndex exRoots [] []).1.pluginFiles = [["plugin.py"], ["lvl1.py"], ["lvl2.py"]] := by decide +kernel

/-- only the entry module is to check; the others, cached already (opened in the editor before the
    scan), are walked all the same (a test of the definitions) -/
example : (importScan [] 10 exIndex [["plugin.py"]] [] []).1.pluginFiles = [["plugin.py"], ["lvl1.py"], ["lvl2.py"]] := by decide +kernel

/-- stated for a list equal to the disk so that it serves for the cache, the same list, as well -/
theorem ex_keys (l : List (Path × Version)) (hl : l = exIndex.disk) (k : Path) (h : ahas l k = true) : k ∈ exRoots := by
  subst hl
  exact ScanT.mem_keys_of_ahas _ k h

/-- the hypotheses of the closure theorem are satisfiable -/
example (g : Path) : g ∈ (importScan [] 10 exIndex exRoots [] []).1.pluginFiles ↔ Reach exIndex exIndex.pluginFiles g :=
  C14_plugin_files_are_the_closure [] exRoots exIndex exRoots (ex_keys _ rfl) (ex_keys _ rfl) (fun _ h => h)
    (by decide +kernel) 10 (by decide +kernel) g

end ScanC

end PLS
