/-
  C15 — reported positions identify exactly the right tokens.
-/
import PLS.Model.Lsp
import PLS.Lemmas.Span
namespace PLS

/-- UTF-16 length of a character / a prefix (what LSP `character` counts) -/
def u16len1 (c : Char) : Nat := if c.val < 0x10000 then 1 else 2
def u16len : Chars → Nat
  | [] => 0
  | c :: cs => u16len1 c + u16len cs

def isAscii (c : Char) : Bool := c.val < 0x80

/-- **C15 (byte columns are UTF-16 columns exactly on ASCII prefixes).** The implementation ships
    byte columns as `character`; they coincide with the protocol's UTF-16 columns when everything
    before the token on its line is ASCII. -/
theorem C15_ascii_prefix_cols (pre : Chars) (h : ∀ c ∈ pre, isAscii c = true) : blen pre = u16len pre := by
  induction pre with
  | nil => rfl
  | cons c cs ih =>
    have hc : c.val < 0x80 := of_decide_eq_true (h c List.mem_cons_self)
    rw [blen, u16len, clen, if_pos hc, u16len1, if_pos (UInt32.lt_trans hc (by decide)),
      ih fun x hx => h x (List.mem_cons_of_mem _ hx)]

/-- … and differ as soon as one non-ASCII character precedes the token (E13). -/
theorem C15_non_ascii_cols_differ : ∃ pre : Chars, blen pre ≠ u16len pre :=
  ⟨['é'], by decide⟩

def Loc.wellFormed (l : Loc) : Prop :=
  l.line0 < l.endLine0 ∨ (l.line0 = l.endLine0 ∧ l.startChar ≤ l.endChar)

/-- `inner ⊆ outer` for LSP ranges -/
def Loc.within (inner outer : Loc) : Prop :=
  (outer.line0 < inner.line0 ∨ (outer.line0 = inner.line0 ∧ outer.startChar ≤ inner.startChar)) ∧
  (inner.endLine0 < outer.endLine0 ∨ (inner.endLine0 = outer.endLine0 ∧ inner.endChar ≤ outer.endChar))

/-- **C15 (navigation targets point at the definition line).** -/
theorem C15_definition_target (st : Index) (f : Path) (line0 col : Nat) (l : Loc)
    (h : (st.hDefinition f line0 col).1 = some l) :
    ∃ d, (st.goto f line0 col).1 = some d ∧ l = pointLoc d.file (d.line - 1) := by
  revert h
  fun_cases Index.hDefinition st f line0 col with
  | case1 d st' hg =>
    intro h
    cases h
    exact ⟨d, congrArg Prod.fst hg, rfl⟩
  | case2 => nofun  -- no definition found

/-- **C15 (implementation points at the yield line when there is one, else at the def line).** -/
theorem C15_implementation_target (st : Index) (f : Path) (line0 col : Nat) (l : Loc)
    (h : (st.hImplementation f line0 col).1 = some l) :
    ∃ d, (st.gotoOrDef f line0 col).1 = some d ∧
      l = pointLoc d.file ((match d.yieldLine with | some y => y | none => d.line) - 1) := by
  revert h
  fun_cases Index.hImplementation st f line0 col with
  | case1 d st' hg =>
    intro h
    cases h
    exact ⟨d, congrArg Prod.fst hg, rfl⟩
  | case2 => nofun  -- no definition found

/-- **C15 (a document symbol's selection range lies inside its range)** — for every definition
    whose lines are numbered from 1 and whose end is not before its start (every recorded one).
    Before the E17 repair the `range` of a one-line or assignment-style fixture was the empty range
    at column 0 and did not contain the name (`C15_selection_outside_range_before`). -/
theorem C15_symbol_selection (st : Index) (f : Path) (s : Index.DocSymbol) (h : s ∈ st.hDocumentSymbols f) :
    ∃ d ∈ st.defs,
      s.range = ⟨f, d.line - 1, 0, d.endLine - 1, if d.endLine == d.line then d.endChar else 0⟩ ∧
      s.selection = spanLoc f (d.line - 1) d.startChar d.endChar ∧
      (1 ≤ d.line → d.line ≤ d.endLine → Loc.within s.selection s.range) := by
  obtain ⟨d, hd, rfl⟩ := List.mem_map.mp h
  refine ⟨d, (List.mem_filter.mp hd).1, rfl, rfl, fun h1 hle => ?_⟩
  simp only [Loc.within, spanLoc, toLsp]
  refine ⟨Or.inr ⟨trivial, Nat.zero_le _⟩, ?_⟩
  by_cases he : d.endLine = d.line
  · exact .inr ⟨by rw [he], Nat.le_of_eq (if_pos (beq_iff_eq.mpr he)).symm⟩
  · exact .inl (Nat.sub_lt_sub_right h1 (Nat.lt_of_le_of_ne hle (Ne.symm he)))

/-- the shape the repair removed: an empty range at column 0 does not contain a name -/
theorem C15_selection_outside_range_before :
    ∃ (range selection : Loc), range = ⟨[], 3, 0, 3, 0⟩ ∧ selection = spanLoc [] 3 4 13 ∧
      ¬ Loc.within selection range := by
  refine ⟨_, _, rfl, rfl, ?_⟩
  simp [Loc.within, spanLoc]

/-- **C15 (parameter spans are well formed and cover the parameter name).** -/
theorem C15_param_range_wellformed (f : Path) (a : Arg) :
    match argUsage f a with
    | .usage u => Loc.wellFormed (spanLoc f (u.line - 1) u.startChar u.endChar) ∧
        u.endChar - u.startChar = a.name.utf8ByteSize
    | _ => False :=
  show _ ∧ _ from ⟨.inr ⟨rfl, Nat.le_add_right _ _⟩, Nat.add_sub_cancel_left _ _⟩

/-- **C15 (a fixture named in a string literal is reported at the name's own place).** The usage
    recorded for a name in `usefixtures("…")`, `pytestmark` or an indirect `parametrize` either
    lies on a line of the literal where the source text, at exactly the recorded byte columns,
    spells the name (whatever prefix, quote style or continuation line the literal has, and
    however many names share one string), or - when no line of the literal spells the name as a
    whole word (escape sequences, implicit concatenation, a line break in the name) - is the span
    between the first and the last column of the literal. In both cases the end is not before the
    start. -/
theorem C15_string_usage_span (f : Path) (lines : List Chars) (s : String) (r : Range) :
    match strUsage f lines (s, r) with
    | .usage u =>
      u.startChar ≤ u.endChar ∧
      ((r.line ≤ u.line ∧ u.line ≤ r.endLine ∧ u.endChar = u.startChar + blen s.toList ∧
        ∃ L pre post, lines[u.line - 1]? = some L ∧ L = pre ++ s.toList ++ post ∧ blen pre = u.startChar) ∨
      (u.line = r.line ∧ u.startChar = r.col + 1 ∧ u.endChar = max (r.endCol - 1) (r.col + 1)))
    | _ => False := by
  simp only [strUsage]
  rcases stringNameSpan_spec lines s.toList r.line r.col r.endLine r.endCol with h | ⟨ln, a, h, h1, h2, h3⟩ <;> rw [h]
  · exact ⟨Nat.le_max_right _ _, .inr ⟨rfl, rfl, rfl⟩⟩
  · exact ⟨Nat.le_add_right _ _, .inl ⟨h1, h2, rfl, h3⟩⟩

/-- **C15 (a one-line literal `prefix"name"`)**: for an identifier between two quotes on one
    line - after any string prefix - the span is the text between the quotes. With an empty prefix
    this is what was recorded before the repair, so the repair changes nothing for the literals
    that were already right; with `r` / `b` / `u` it is the case the old `+1 / -1` rule missed. -/
theorem C15_oneline_literal_span (f : Path) (pre pfx post : Chars) (s : String) (q : Char) (ln : Nat)
    (lines : List Chars) (hs : s.toList ≠ []) (hw : ∀ c ∈ s.toList, isWordChar c = true)
    (hq : isQuote q = true) (hpfx : ∀ c ∈ pfx, isQuote c = false)
    (hl : lines[ln - 1]? = some (pre ++ (pfx ++ q :: (s.toList ++ [q])) ++ post)) :
    strUsage f lines (s, ⟨ln, blen pre, ln, blen pre + (blen pfx + blen s.toList + 2)⟩) =
      .usage ⟨s, f, ln, blen pre + blen pfx + 1, blen pre + blen pfx + 1 + blen s.toList⟩ := by
  have hqc : q = '"' ∨ q = '\'' := by simpa [isQuote] using hq
  have hq1 : clen q = 1 := by rcases hqc with rfl | rfl <;> rfl
  have hqw : isWordChar q = false := by rcases hqc with rfl | rfl <;> decide +kernel
  have hnl : s.toList.contains '\n' = false :=
    Bool.eq_false_iff.mpr fun hc => absurd (hw _ (List.contains_iff_mem.mp hc)) (by decide +kernel)
  have hlen : blen pfx + blen s.toList + 2 = blen (pfx ++ q :: (s.toList ++ [q])) := by
    simp only [blen, blen_append, hq1]; omega
  have hseg := literalSegment_oneline hl
  rw [skipStringPrefix_quote _ hpfx hq, ← hlen] at hseg
  have hocc := wordOccAux_after_quote (post := [q]) hs hqw hw (by simp [hqw])
  rw [strUsage, stringNameSpan_oneline hnl hseg hocc, hq1]

/-- tests of the definitions on the forms the old rule got wrong: a raw literal, a continuation line, a name
    that is part of another (`ab, a`) or is the prefix letter (`r"r"`); and on the fallback: source text that
    does not spell the name, a line break in the name -/
example : stringNameSpan ["@pytest.mark.usefixtures(r\"db\")".toList] "db".toList 1 25 1 30 = (1, 27, 29) := by
  repeat rw [String.toList_ofList]
  decide +kernel
example : stringNameSpan ["@pytest.mark.usefixtures(\"\"\"".toList, "db\"\"\")".toList] "db".toList 1 25 2 5 = (2, 0, 2) := by
  repeat rw [String.toList_ofList]
  decide +kernel
example : stringNameSpan ["@pytest.mark.parametrize(\"ab, a\", [], indirect=True)".toList] "a".toList 1 25 1 32 = (1, 30, 31) := by
  repeat rw [String.toList_ofList]
  decide +kernel
example : stringNameSpan ["@pytest.mark.usefixtures(r\"r\")".toList] "r".toList 1 25 1 29 = (1, 27, 28) := by
  repeat rw [String.toList_ofList]
  decide +kernel
example : stringNameSpan ["@pytest.mark.usefixtures(\"d\\x62\")".toList] "db".toList 1 25 1 32 = (1, 26, 31) := by
  repeat rw [String.toList_ofList]
  decide +kernel
example : stringNameSpan ["@pytest.mark.usefixtures(\"\"\"".toList, "db\"\"\")".toList] "\ndb".toList 1 25 2 5 = (1, 26, 26) := by
  repeat rw [String.toList_ofList]
  decide +kernel

end PLS
