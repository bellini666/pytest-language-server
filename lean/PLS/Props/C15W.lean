/-
  C15 / C04 — a fixture name found inside a string literal is found as a WHOLE WORD.
-/
import PLS.Props.C15
namespace PLS

/-- **C15 / C04 (names that are parts of one another).** From the start of a segment, the reported occurrence of a name
    is delimited on both sides: by the segment's ends or by characters that are not letters, digits or `_`. -/
theorem C15_string_name_is_whole_word (name seg : Chars) (off : Nat)
    (h : wordOccAux name none 0 seg = some off) :
    ∃ pre post, seg = pre ++ name ++ post ∧ blen pre = off ∧
      post.head?.any isWordChar = false ∧ pre.getLast?.any isWordChar = false := by
  obtain ⟨pre, post, hs, hb, ha, hp⟩ := wordOccAux_whole_word name seg none 0 off h
  exact ⟨pre, post, hs, hb, ha, by rwa [Option.or_none] at hp⟩

/-- `_` is a word character: `db` is found as the LAST word, not inside `db_user` / `user_db` -/
example : isWordChar '_' = true ∧
    wordOccAux "db".toList none 0 "\"db_user,db\"".toList = some 9 ∧
    wordOccAux "db".toList none 0 "\"user_db, db\"".toList = some 10 ∧
    wordOccAux "db".toList none 0 "\"a_db_b\", \"db\"".toList = some 11 := by
  repeat rw [String.toList_ofList]
  decide +kernel

end PLS
