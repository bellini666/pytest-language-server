/-
  C16 — dependency diagnostics (cycles, scope mismatches) are exact and stable.
-/
import PLS.Generated
import PLS.Lemmas.Dfs
import PLS.Lemmas.Order
namespace PLS

/-- **C16 (the scope order is the one of the statement).** The model's `Scope` is tied to the
    Rust enum: variant names and discriminants as extracted from `types.rs` on this run. -/
theorem C16_scope_table :
    Generated.scopeTable = [("Function", 0), ("Class", 1), ("Module", 2), ("Package", 3), ("Session", 4)] ∧
    Generated.scopeParseTable = [("function", "Function"), ("class", "Class"), ("module", "Module"),
      ("package", "Package"), ("session", "Session")] ∧
    Generated.scopeAsStrTable = [("Function", "function"), ("Class", "class"), ("Module", "module"),
      ("Package", "package"), ("Session", "session")] := ⟨rfl, rfl, rfl⟩

/-- `Scope.ofNat` (it comes with `DecidableEq`) inverts the rank -/
theorem Scope.rank_inj {a b : Scope} (h : a.rank = b.rank) : a = b := by
  have key : ∀ c : Scope, Scope.ofNat c.rank = c := fun c => by cases c <;> rfl
  exact (key a).symm.trans ((congrArg Scope.ofNat h).trans (key b))

/-- function < class < module < package < session, a strict total order -/
theorem C16_scope_order :
    (Scope.function < Scope.cls ∧ Scope.cls < Scope.module ∧ Scope.module < Scope.package ∧
      Scope.package < Scope.session) ∧
    (∀ a b : Scope, a < b ∨ a = b ∨ b < a) ∧ (∀ a b : Scope, a < b → ¬ b < a) :=
  -- `<` on `Scope` is `<` on the ranks
  ⟨by decide, fun a b => (Nat.lt_trichotomy a.rank b.rank).imp_right (Or.imp_left Scope.rank_inj), fun _ _ => Nat.lt_asymm⟩

theorem mem_mismatchesIn {ix : List Def} {res : Def → String → Option Def} {names : List String}
    {f : Path} {fd dd : Def} :
    (fd, dd) ∈ mismatchesIn ix res names f ↔
      (∃ n ∈ names, (defsOf ix n).find? (fun d => d.file == f) = some fd) ∧
      (∃ dep ∈ fd.deps, res fd dep = some dd) ∧ dd.scope < fd.scope := by
  simp only [mismatchesIn, List.mem_flatMap]
  constructor
  · rintro ⟨n, hn, h⟩
    split at h
    · cases h
    · next fd' hf =>
      obtain ⟨dep, hdep, h⟩ := List.mem_filterMap.mp h
      split at h
      · cases h
      · next dd' hh =>
        obtain ⟨hlt, he⟩ := Option.ite_none_right_eq_some.mp h
        cases he
        exact ⟨⟨n, hn, hf⟩, ⟨dep, hdep, hh⟩, hlt⟩
  · rintro ⟨⟨n, hn, hf⟩, ⟨dep, hdep, hh⟩, hlt⟩
    refine ⟨n, hn, ?_⟩
    simp only [hf, List.mem_filterMap]
    exact ⟨dep, hdep, by simp only [hh, hlt, if_true]⟩

/-- **C16 (every reported mismatch is a real scope inversion between the two definitions it
    names)**: the fixture is defined in the file, the other definition is what the resolver `res`
    selected for one of its dependencies, and its scope is strictly narrower. -/
theorem C16_mismatch_sound (ix : List Def) (res : Def → String → Option Def) (names : List String) (f : Path)
    (fd dd : Def) (h : (fd, dd) ∈ mismatchesIn ix res names f) :
    fd ∈ ix ∧ fd.file = f ∧ (∃ dep ∈ fd.deps, res fd dep = some dd) ∧ dd.scope < fd.scope := by
  obtain ⟨⟨n, _, hf⟩, hres, hlt⟩ := mem_mismatchesIn.mp h
  have hfile := List.find?_some hf
  exact ⟨(mem_defsOf.mp (List.mem_of_find?_eq_some hf)).1, beq_iff_eq.mp hfile, hres, hlt⟩

/-- **C16 (… and every inversion against the selected definition of a dependency is reported).** -/
theorem C16_mismatch_complete (ix : List Def) (res : Def → String → Option Def) (names : List String) (f : Path)
    (n dep : String) (fd dd : Def)
    (hn : n ∈ names) (hf : (defsOf ix n).find? (fun d => d.file == f) = some fd)
    (hdep : dep ∈ fd.deps) (hh : res fd dep = some dd) (hlt : dd.scope < fd.scope) :
    (fd, dd) ∈ mismatchesIn ix res names f :=
  mem_mismatchesIn.mpr ⟨⟨n, hn, hf⟩, ⟨dep, hdep, hh⟩, hlt⟩

/-- **C16 (the scope verdict is about the definition resolution selects).** With the resolver the
    code uses since the E14 repair (`scopeRes`: `find_closest_definition` from the fixture's file;
    for the fixture's own name the definition it overrides): a scope-mismatch on fixture `fd` about
    `dd` is issued IF AND ONLY IF `dd` is the definition resolution selects, from `fd`'s file, for
    one of `fd`'s dependencies, and `dd`'s scope is narrower — the property's sentence, for every
    index, import relation and file.  Definitions of the same name that resolution does not select
    (an unrelated conftest elsewhere, a later registration) cannot change the verdict. -/
theorem C16_mismatch_iff_resolved (ix : List Def) (imp : Path → String → Bool) (names : List String) (f : Path)
    (fd dd : Def) :
    (fd, dd) ∈ mismatchesIn ix (scopeRes ix imp f) names f ↔
      (∃ n ∈ names, (defsOf ix n).find? (fun d => d.file == f) = some fd) ∧
      (∃ dep ∈ fd.deps, scopeRes ix imp f fd dep = some dd) ∧ dd.scope < fd.scope :=
  mem_mismatchesIn

/-- what `scopeRes` selects is a definition of the dependency's name in the index, and never the
    requesting fixture itself when it requests its own name -/
theorem C16_scopeRes_mem (ix : List Def) (imp : Path → String → Bool) (f : Path) (fd dd : Def) (dep : String)
    (h : scopeRes ix imp f fd dep = some dd) : dd ∈ ix ∧ dd.name = dep ∧ (dep = fd.name → dd ≠ fd) := by
  unfold scopeRes at h
  split at h
  · obtain ⟨hm, hn, hf⟩ := resolveF_mem h
    exact ⟨hm, hn, fun _ => bne_iff_ne.mp hf⟩
  · next hne =>
    obtain ⟨hm, hn⟩ := resolve_mem h
    exact ⟨hm, hn, fun e => absurd (beq_iff_eq.mpr e) hne⟩

/-- the name-level graph only has edges to names that are defined (dependencies on unknown names
    are dropped wherever they stand in the parameter list) -/
theorem C16_unknown_deps_dropped (ix : List Def) (n m : String) (h : m ∈ cyDeps ix n) :
    ∃ d ∈ ix, d.name = m :=
  let ⟨_, _, _, hk⟩ := DfsT.mem_cyDeps.mp h; hk

/-- … and keeps every defined one, in order: an unknown name before a known one hides nothing -/
theorem C16_known_deps_kept (ix : List Def) (n m : String) (d : Def)
    (hd : cyDef ix n = some d) (hm : m ∈ d.deps) (hk : ∃ e ∈ ix, e.name = m) : m ∈ cyDeps ix n :=
  DfsT.mem_cyDeps.mpr ⟨d, hd, hm, hk⟩

end PLS
