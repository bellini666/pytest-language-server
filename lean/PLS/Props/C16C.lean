/-
  C16, "every dependency cycle in the workspace is reported at least once", for the explicit-stack DFS of
  `Model/Cycles.lean`.  A depth-first search with one global `visited` set does not list every elementary cycle (two
  cycles through the same back edge, or with the same node set, give one report); what it can promise is
  `C16_every_cycle_is_hit`.

  The proof is the finishing-order argument: when a fixture is marked visited, each of its dependencies is either
  visited already — hence earlier in the `visited` list — or was found on the recursion stack, and then the path's key
  was put into `seen`; around a closed chain the position in `visited` cannot decrease for ever, so one of its edges
  was such a back edge.
-/
import PLS.Props.C16T
namespace PLS
namespace DfsC
open DfsT DfsS

def pos : List String → String → Nat
  | [], _ => 0
  | y :: ys, x => if y = x then 0 else pos ys x + 1

theorem pos_eq_idxOf (l : List String) (x : String) : pos l x = l.idxOf x := by
  induction l with
  | nil => rfl
  | cons y ys ih => simp only [pos, List.idxOf_cons, ih, cond_eq_ite, beq_iff_eq]

/-- `y` finished before `x` -/
def Before (l : List String) (y x : String) : Prop := pos l y < pos l x

theorem before_setInsert_old {l : List String} {c y x : String} (hx : x ∈ l) (h : Before l y x) :
    Before (setInsert l c) y x := by
  unfold setInsert
  split
  · exact h
  · simp only [Before, pos_eq_idxOf] at *
    have hy : y ∈ l := List.idxOf_lt_length_iff.mp (Nat.lt_trans h (List.idxOf_lt_length_iff.mpr hx))
    rwa [List.idxOf_append, List.idxOf_append, if_pos hx, if_pos hy]

theorem before_setInsert_new {l : List String} {c y : String} (hy : y ∈ l) (hc : c ∉ l) :
    Before (setInsert l c) y c := by
  rw [setInsert, if_neg (mt List.contains_iff_mem.mp hc), Before, pos_eq_idxOf, pos_eq_idxOf, List.idxOf_append,
    List.idxOf_append, if_pos hy, if_neg hc]
  exact Nat.lt_of_lt_of_le (List.idxOf_lt_length_iff.mpr hy) (Nat.le_add_left _ _)

/-- the edge `x → y` was seen as a back edge: the key of a path through both is in `seen` -/
def KeyHit (ix : List Def) (seen : List String) (x y : String) : Prop :=
  ∃ cp : List String, x ∈ cp.dropLast ∧ y ∈ cp.dropLast ∧ (∀ z ∈ cp.dropLast, z ∈ namesOf ix) ∧ cycleKey cp ∈ seen

def DepDone (ix : List Def) (vis seen : List String) (x y : String) : Prop := y ∈ vis ∨ KeyHit ix seen x y

/-- every frame is done (`DepDone`) with the dependencies before its index — except that the last of them may be
    `above`, the node of the frame directly above, still being explored -/
def FramesDone (ix : List Def) (vis seen : List String) : Option String → List Frame → Prop
  | _, [] => True
  | above, f :: rest =>
    (∀ j y, j < f.2.1 → (cyDeps ix f.1)[j]? = some y →
        DepDone ix vis seen f.1 y ∨ (j + 1 = f.2.1 ∧ above = some y)) ∧
    FramesDone ix vis seen (some f.1) rest

structure Inv3 (ix : List Def) (s : Dfs) : Prop where
  black : ∀ x ∈ s.visited, ∀ y ∈ cyDeps ix x, Before s.visited y x ∨ KeyHit ix s.seen x y
  /-- what `black` will ask of a node when its frame is popped, established dependency by dependency while the frame
      is on the stack -/
  frames : FramesDone ix s.visited s.seen none s.stack
  rep : ∀ k ∈ s.seen, ∃ c ∈ s.cycles, cycleKey c.path = k

theorem keyHit_mono {ix : List Def} {seen seen' : List String} (h : ∀ k ∈ seen, k ∈ seen') {x y : String}
    (hk : KeyHit ix seen x y) : KeyHit ix seen' x y := by
  obtain ⟨cp, h1, h2, hn, h3⟩ := hk
  exact ⟨cp, h1, h2, hn, h _ h3⟩

/-- `above` may be dropped once it is visited (the frame for it was popped) -/
theorem frames_mono {ix : List Def} {vis vis' seen seen' : List String} (hv : ∀ k ∈ vis, k ∈ vis')
    (hs : ∀ k ∈ seen, k ∈ seen') : ∀ {st : List Frame} {a a' : Option String}, (∀ y, a = some y → a' = some y ∨ y ∈ vis') →
    FramesDone ix vis seen a st → FramesDone ix vis' seen' a' st := by
  intro st
  induction st with
  | nil => intro _ _ _ _; trivial
  | cons f rest ih =>
    intro a a' ha h
    refine ⟨fun j y hj hy => ?_, ih (fun _ => Or.inl) h.2⟩
    rcases h.1 j y hj hy with h1 | ⟨e, h1⟩
    · exact Or.inl (Or.imp (hv y) (keyHit_mono hs) h1)
    · exact (ha y h1).elim (fun h2 => Or.inr ⟨e, h2⟩) fun h2 => Or.inl (Or.inl h2)

/-- the top frame steps past `dep`: dealt with (`adv`), or about to be explored by the frame `above` (`push`) -/
theorem frames_adv {ix : List Def} {vis seen : List String} {above : Option String} {cur dep : String} {idx : Nat}
    {p p' : List String} {rest : List Frame} (hdep : (cyDeps ix cur)[idx]? = some dep)
    (h : FramesDone ix vis seen none ((cur, idx, p) :: rest)) (hnew : DepDone ix vis seen cur dep ∨ above = some dep) :
    FramesDone ix vis seen above ((cur, idx + 1, p') :: rest) := by
  refine ⟨fun j y hj hy => ?_, h.2⟩
  rcases Nat.lt_succ_iff_lt_or_eq.mp hj with hj | rfl
  · exact Or.inl ((h.1 j y hj hy).resolve_right fun h => nomatch h.2)
  · cases hdep.symm.trans hy
    exact hnew.imp_right fun h => ⟨rfl, h⟩

/-- every entry of a chain but the first is the target of an edge, hence a known name -/
theorem chain_tail_names {ix : List Def} {l : List String} : ∀ {a : String}, Chain ix (a :: l) → ∀ x ∈ l, x ∈ namesOf ix := by
  induction l with
  | nil => intro _ _ x hx; cases hx
  | cons b m ih =>
    intro a hch x hx
    rcases List.mem_cons.mp hx with rfl | hx
    · exact deps_in_names ix a _ hch.1
    · exact ih (chain_tail hch) x hx

theorem chain_names {ix : List Def} {l : List String} {a : String} (hch : Chain ix (a :: l)) (ha : a ∈ namesOf ix) :
    ∀ x ∈ a :: l, x ∈ namesOf ix :=
  List.forall_mem_cons.mpr ⟨ha, chain_tail_names hch⟩

theorem backedge_hit {ix : List Def} {path seen : List String} {cur dep : String} (hch : Chain ix path)
    (hlast : path.getLast? = some cur) (hedge : Edge ix cur dep) (hmem : dep ∈ path)
    (hk : cycleKey (backPath path dep) ∈ seen) : KeyHit ix seen cur dep := by
  obtain ⟨post, hb, hch', hl⟩ := backPath_spec hch hlast hmem
  refine ⟨_, ?_, ?_, ?_, hk⟩ <;> rw [hb, List.dropLast_concat]
  · exact List.mem_of_getLast? hl
  · exact List.mem_cons_self
  · exact chain_names hch' (deps_in_names ix cur dep hedge)

theorem noted_done {ix : List Def} {vis seen rs path seen' : List String} {cur dep : String} {cycles cycles' : List Cycle}
    (hn : Noted ix vis seen cycles rs path dep seen' cycles') (hch : Chain ix path) (hlast : path.getLast? = some cur)
    (hrs : ∀ x, x ∈ rs → x ∈ path) (hedge : Edge ix cur dep) (hrep : ∀ k ∈ seen, ∃ c ∈ cycles, cycleKey c.path = k) :
    (∀ k ∈ seen, k ∈ seen') ∧ DepDone ix vis seen' cur dep ∧ ∀ k ∈ seen', ∃ c ∈ cycles', cycleKey c.path = k := by
  cases hn with
  | skip _ hv => exact ⟨fun _ h => h, Or.inl hv, hrep⟩
  | dup hin hk => exact ⟨fun _ h => h, Or.inr (backedge_hit hch hlast hedge (hrs _ hin) hk), hrep⟩
  | new d hin _ _ =>
    have hk := List.mem_append_right seen (List.mem_singleton_self (cycleKey (backPath path dep)))
    refine ⟨fun _ => List.mem_append_left _, Or.inr (backedge_hit hch hlast hedge (hrs _ hin) hk), fun k hk => ?_⟩
    rcases List.mem_append.mp hk with hk | hk
    · obtain ⟨c, hcm, hck⟩ := hrep k hk
      exact ⟨c, List.mem_append_left _ hcm, hck⟩
    · exact ⟨_, List.mem_append_right _ (List.mem_singleton_self _), (List.mem_singleton.mp hk).symm⟩

theorem black_insert {ix : List Def} {vis seen : List String} {cur : String}
    (hblack : ∀ x ∈ vis, ∀ y ∈ cyDeps ix x, Before vis y x ∨ KeyHit ix seen x y)
    (hcur : ∀ y ∈ cyDeps ix cur, DepDone ix vis seen cur y) :
    ∀ x ∈ setInsert vis cur, ∀ y ∈ cyDeps ix x, Before (setInsert vis cur) y x ∨ KeyHit ix seen x y := by
  intro x hx y hy
  by_cases hxv : x ∈ vis
  · exact (hblack x hxv y hy).imp_left (before_setInsert_old hxv)
  · cases (mem_setInsert.mp hx).resolve_left hxv
    exact (hcur y hy).imp_left fun h => before_setInsert_new h hxv

theorem inv3_step {ix : List Def} {s s' : Dfs} (h2 : Inv2 ix (proj s)) (h3 : Inv3 ix s) (hst : Step ix s s') :
    Inv3 ix s' := by
  obtain ⟨hblack, hF, hrep⟩ := h3
  cases hst with
  | pop hge =>
    obtain ⟨hFtop, hFrest⟩ := hF
    refine {
      black := black_insert hblack fun y hy => ?_
      frames := frames_mono (fun k hk => mem_setInsert.mpr (Or.inl hk)) (fun _ h => h)
        (fun y e => Or.inr (mem_setInsert.mpr (Or.inr (Option.some.inj e).symm))) hFrest
      rep := hrep }
    obtain ⟨j, hj⟩ := List.mem_iff_getElem?.mp hy
    exact (hFtop j y (Nat.lt_of_lt_of_le (List.getElem?_eq_some_iff.mp hj).1 hge) hj).resolve_right fun h => nomatch h.2
  | adv hdep hn =>
    obtain ⟨hchain, hlast, hrs⟩ := top_facts h2
    obtain ⟨hsub, hnew, hrep'⟩ := noted_done hn hchain hlast hrs (List.mem_of_getElem? hdep) hrep
    exact {
      black := fun x hx y hy => (hblack x hx y hy).imp_right (keyHit_mono hsub)
      frames := frames_adv hdep (frames_mono (fun _ h => h) hsub (fun _ => Or.inl) hF) (Or.inl hnew)
      rep := hrep' }
  | push hdep _ _ =>
    exact {
      black := hblack
      frames := ⟨fun j y hj => absurd hj (Nat.not_lt_zero j), frames_adv hdep hF (Or.inr rfl)⟩
      rep := hrep }

/-- nothing leaves the stack without being visited -/
def Live (n : String) (s : Dfs) : Prop := n ∈ s.visited ∨ n ∈ s.stack.map (·.1)

theorem live_step {ix : List Def} {n : String} {s s' : Dfs} (h : Live n s) (hst : Step ix s s') : Live n s' := by
  cases hst with
  | pop _ =>
    simp only [Live, List.map_cons, List.mem_cons, mem_setInsert] at h ⊢
    exact or_assoc.mpr h
  | adv _ _ => exact h
  | push _ _ _ =>
    simp only [Live, List.map_cons, List.mem_cons] at h ⊢
    exact h.imp_right Or.inr

theorem run_inv (ix : List Def) {s : Dfs} {r : String} (hr : r ∈ namesOf ix) (h3 : Inv3 ix s) :
    Inv3 ix (dfsRun ix (cyFuel ix) (start s r)) ∧
      ∀ n, n = r ∨ n ∈ s.visited → n ∈ (dfsRun ix (cyFuel ix) (start s r)).visited := by
  obtain ⟨_, i3, hl⟩ := dfsRun_induct ix
    (fun t => Inv2 ix (proj t) ∧ Inv3 ix t ∧ ∀ n, n = r ∨ n ∈ s.visited → Live n t)
    (fun h hst => ⟨inv2_step h.1 hst, inv3_step h.1 h.2.1 hst, fun n hn => live_step (h.2.2 n hn) hst⟩)
    (cyFuel ix) (start s r)
    ⟨inv2_start ix s r, { black := h3.black, frames := ⟨fun j y hj => absurd hj (Nat.not_lt_zero j), trivial⟩, rep := h3.rep },
      fun n hn => hn.symm.imp id List.mem_singleton.mpr⟩
  refine ⟨i3, fun n hn => (hl n hn).resolve_right ?_⟩
  rw [C12_dfs_terminates ix s r hr]
  exact List.not_mem_nil

theorem roots_inv (ix : List Def) (roots : List String) (hroots : ∀ r ∈ roots, r ∈ namesOf ix) (s0 : Dfs) (h3 : Inv3 ix s0) :
    let sF := roots.foldl (fun (s : Dfs) r =>
      if s.visited.contains r then s
      else dfsRun ix (cyFuel ix) { s with stack := [(r, 0, [])], recStack := [] }) s0
    Inv3 ix sF ∧ ∀ n ∈ roots, n ∈ sF.visited := by
  intro sF
  -- the third conjunct of `foldl_settles` (what is visited stays so) is dropped
  refine And.imp_right And.left (foldl_settles (P := Inv3 ix) (D := fun r s => r ∈ s.visited) roots s0 h3 fun s r hr h3 => ?_)
  split
  · exact ⟨h3, List.contains_iff_mem.mp ‹_›, fun _ h => h⟩
  · obtain ⟨i3, hv⟩ := run_inv ix (hroots r hr) h3
    exact ⟨i3, hv r (Or.inl rfl), fun n hn => hv n (Or.inr hn)⟩

def Pair (u v : String) (l : List String) : Prop := ∃ l1 l2, l = l1 ++ u :: v :: l2

theorem pair_cons {u v a : String} {l : List String} (h : Pair u v l) : Pair u v (a :: l) := by
  obtain ⟨l1, l2, h⟩ := h
  exact ⟨a :: l1, l2, by rw [h]; rfl⟩

theorem chain_descends {ix : List Def} {vis seen : List String}
    (hblack : ∀ x ∈ vis, ∀ y ∈ cyDeps ix x, Before vis y x ∨ KeyHit ix seen x y) (l : List String) :
    ∀ (a : String), Chain ix (a :: l) → (∀ x ∈ a :: l, x ∈ vis) →
      (∃ u v, Pair u v (a :: l) ∧ KeyHit ix seen u v) ∨ ∀ z ∈ l, Before vis z a := by
  induction l with
  | nil => exact fun _ _ _ => Or.inr nofun
  | cons b l ih =>
    intro a hch hvis
    obtain ⟨ha, hvis⟩ := List.forall_mem_cons.mp hvis
    rcases hblack a ha b hch.1 with hab | hk
    · rcases ih b hch.2 hvis with ⟨u, v, hp, hk⟩ | h
      · exact Or.inl ⟨u, v, pair_cons hp, hk⟩
      · exact Or.inr (List.forall_mem_cons.mpr ⟨hab, fun z hz => Nat.lt_trans (h z hz) hab⟩)
    · exact Or.inl ⟨a, b, ⟨[], l, rfl⟩, hk⟩

theorem closedChain_cases {ix : List Def} {C : List String} (hC : ClosedChain ix C) :
    ∃ a l, C = a :: l ∧ a ∈ l ∧ Chain ix (a :: l) := by
  obtain ⟨hlen, hhl, hchain⟩ := hC
  rcases C with _ | ⟨a, _ | ⟨b, l⟩⟩
  · exact absurd hlen (by decide : ¬ 2 ≤ 0)
  · exact absurd hlen (by decide : ¬ 2 ≤ 1)
  · exact ⟨a, b :: l, rfl, List.mem_of_getLast? hhl.symm, hchain⟩

theorem closed_names {ix : List Def} {C : List String} (hC : ClosedChain ix C) : ∀ x ∈ C, x ∈ namesOf ix := by
  obtain ⟨a, l, rfl, hmem, hchain⟩ := closedChain_cases hC
  -- the first entry occurs again later, so it too is the target of an edge
  exact chain_names hchain (chain_tail_names hchain a hmem)

theorem insertS_perm : ∀ (x : String) (l : List String), (insertS x l).Perm (x :: l) :=
  perm_insert (c := fun x y => decide (x < y)) (fun _ => rfl) fun _ _ _ => by simp only [insertS, decide_eq_true_eq]

theorem mem_sorted (l : List String) (y : String) : y ∈ l.foldr insertS [] ↔ y ∈ l :=
  (perm_foldr_insert insertS_perm l).mem_iff

def CommaFree (ix : List Def) : Prop := ∀ n ∈ namesOf ix, ',' ∉ n.toList

theorem key_inj (ix : List Def) (hcf : CommaFree ix) (l m : List String)
    (hl : ∀ z ∈ l, z ∈ namesOf ix) (hm : ∀ z ∈ m, z ∈ namesOf ix) (hln : l ≠ []) (hmn : m ≠ [])
    (h : ",".intercalate (l.foldr insertS []) = ",".intercalate (m.foldr insertS [])) : ∀ x, x ∈ l ↔ x ∈ m := by
  have split : ∀ l : List String, l ≠ [] → (∀ z ∈ l, z ∈ namesOf ix) →
      (",".intercalate (l.foldr insertS [])).toList.splitOn ',' = (l.foldr insertS []).map String.toList := by
    intro l hl hn
    rw [String.toList_intercalate, String.toList_ofList]
    refine List.splitOn_intercalate ',' (fun a ha => ?_) ?_
    · obtain ⟨z, hz, rfl⟩ := List.mem_map.mp ha
      exact hcf z (hn z ((mem_sorted l z).mp hz))
    · obtain ⟨a, ha⟩ := List.exists_mem_of_ne_nil l hl
      exact List.ne_nil_of_mem (List.mem_map_of_mem ((mem_sorted l a).mpr ha))
  have heq : l.foldr insertS [] = m.foldr insertS [] :=
    (List.map_inj_right fun _ _ e => String.toList_injective e).mp
      ((split _ hln hl).symm.trans ((congrArg (·.toList.splitOn ',') h).trans (split _ hmn hm)))
  intro x
  rw [← mem_sorted l x, ← mem_sorted m x, heq]

end DfsC

open DfsC DfsS DfsT in
/-- **C16 (every dependency cycle is reported, up to the search's own de-duplication).** For every
    dependency graph, every root order that covers the graph's fixture names, and EVERY closed
    dependency chain `C` (self-loops, long cycles, cycles sharing fixtures, several components):
    there are two consecutive fixtures `u → v` of `C`, a path `cp` through both, and a reported
    cycle whose de-duplication key is the key of `cp`.  Together with
    `C16_reported_cycles_are_cycles` — what is reported is a real closed chain — a workspace has a
    dependency cycle if and only if `compute_fixture_cycles` reports one, and no cycle is disjoint
    from all reports. -/
theorem C16_every_cycle_is_hit (ix : List Def) (roots : List String)
    (hroots : ∀ r ∈ roots, r ∈ namesOf ix) (hall : ∀ n ∈ namesOf ix, n ∈ roots)
    (C : List String) (hC : ClosedChain ix C) :
    ∃ u v, Pair u v C ∧ ∃ cp : List String, u ∈ cp.dropLast ∧ v ∈ cp.dropLast ∧
      (∀ z ∈ cp.dropLast, z ∈ namesOf ix) ∧
      ∃ c ∈ computeCycles ix roots, cycleKey c.path = cycleKey cp := by
  obtain ⟨i3, hvis⟩ := roots_inv ix roots hroots {} ⟨fun x hx => (nomatch hx), trivial, fun k hk => (nomatch hk)⟩
  have hnames := closed_names hC
  obtain ⟨a, l, rfl, hmem, hchain⟩ := closedChain_cases hC
  -- some consecutive pair was a back edge: otherwise the finishing position decreases all around `C`
  rcases chain_descends i3.black l a hchain fun x hx => hvis x (hall x (hnames x hx)) with
    ⟨u, v, hp, cp, h1, h2, hn, hk⟩ | h
  · obtain ⟨c, hc, hck⟩ := i3.rep _ hk
    exact ⟨u, v, hp, cp, h1, h2, hn, c, hc, hck⟩
  · exact absurd (h a hmem) (Nat.lt_irrefl _)

open DfsC DfsS DfsT in
/-- **C16 (… in terms of fixtures, for names without a comma).** The de-duplication key is the
    comma-joined sorted list of the path's fixtures; when no fixture name contains a comma (every
    Python identifier; only a `name="a,b"` alias could) equal keys mean equal sets of fixtures, so:
    every closed dependency chain has two consecutive fixtures `u → v` that both lie on one
    reported cycle.  In particular no dependency cycle is disjoint from everything reported. -/
theorem C16_every_cycle_meets_a_report (ix : List Def) (roots : List String)
    (hroots : ∀ r ∈ roots, r ∈ namesOf ix) (hall : ∀ n ∈ namesOf ix, n ∈ roots) (hcf : CommaFree ix)
    (C : List String) (hC : ClosedChain ix C) :
    ∃ u v, Pair u v C ∧ ∃ c ∈ computeCycles ix roots, u ∈ c.path ∧ v ∈ c.path := by
  obtain ⟨u, v, hp, cp, h1, h2, hn, c, hc, hk⟩ := C16_every_cycle_is_hit ix roots hroots hall C hC
  obtain ⟨hclosed, _⟩ := C16_reported_cycles_are_cycles ix roots c hc
  have hcn : ∀ z ∈ c.path.dropLast, z ∈ namesOf ix := fun z hz => closed_names hclosed z (List.dropLast_subset _ hz)
  have hne : c.path.dropLast ≠ [] := List.ne_nil_of_length_pos (by rw [List.length_dropLast]; exact Nat.sub_pos_of_lt hclosed.1)
  have hiff := key_inj ix hcf c.path.dropLast cp.dropLast hcn hn hne (List.ne_nil_of_mem h1) hk
  exact ⟨u, v, hp, c, hc, List.dropLast_subset _ ((hiff u).mpr h1), List.dropLast_subset _ ((hiff v).mpr h2)⟩

def demoDef (n : String) (ln : Nat) (deps : List String) : Def :=
  { name := n, file := ["f.py"], line := ln, endLine := ln, startChar := 4, endChar := 5, docstring := none,
    returnType := none, thirdParty := false, plugin := false, deps := deps, scope := .function,
    yieldLine := none, autouse := false }

def demoIx : List Def := [demoDef "a" 1 ["b"], demoDef "b" 2 ["a", "b"]]

/-- the theorems' hypotheses can be met: `a → b → a` is a closed chain of `demoIx` … -/
example : DfsS.ClosedChain demoIx ["a", "b", "a"] := by
  refine ⟨by decide, by decide, ?_, ?_, trivial⟩ <;> (unfold DfsS.Edge; decide)

/-- … and the search reports it (a test, by evaluation) -/
example : (computeCycles demoIx ["a", "b"]).map (·.path) = [["a", "b", "a"], ["b", "b"]] := by decide +kernel

end PLS
