/-
  C16 / C15 — what is PUBLISHED for a document (handler level, `Model/Lsp.lean: hDiagnostics`).
-/
import PLS.Props.C19
namespace PLS
open Index

/-- **C16 (one warning per narrower dependency).** With the code enabled, the scope-mismatch diagnostics published
    for a file are, in order, exactly the images of the (fixture, dependency) pairs `mismatchesIn` reports for it:
    as many diagnostics as pairs, several on one fixture when several of its dependencies are narrower. -/
theorem C16_published_mismatches (st : Index) (dis : List String) (f : Path) (cy : List Cycle)
    (res : Def → String → Option Def) (h : "scope-mismatch" ∉ dis) :
    (st.hDiagnostics dis f cy res).filter (fun d => d.code == "scope-mismatch") =
      (mismatchesIn st.defs res ((alookup st.fileDefs f).getD []) f).map (fun m =>
        { code := "scope-mismatch",
          loc := spanLoc f (toLsp m.1.line) m.1.startChar m.1.endChar,
          message := m.1.scope.asStr ++ "-scoped fixture '" ++ m.1.name ++ "' depends on " ++
            m.2.scope.asStr ++ "-scoped fixture '" ++ m.2.name ++ "'" }) := by
  have hs : dis.contains "scope-mismatch" = false := by simpa using h
  unfold hDiagnostics
  simp only [List.filter_append, apply_ite (List.filter _), List.filter_nil, filter_code_map (· == "scope-mismatch"), hs]
  -- the other two families carry other codes
  simp only [beq_iff_eq, String.reduceEq, Bool.false_eq_true, ↓reduceIte, ite_self, List.nil_append]

/-- corollary: as many warnings as pairs -/
theorem C16_published_mismatch_count (st : Index) (dis : List String) (f : Path) (cy : List Cycle)
    (res : Def → String → Option Def) (h : "scope-mismatch" ∉ dis) :
    ((st.hDiagnostics dis f cy res).filter (fun d => d.code == "scope-mismatch")).length =
      (mismatchesIn st.defs res ((alookup st.fileDefs f).getD []) f).length := by
  rw [C16_published_mismatches st dis f cy res h, List.length_map]

/-- **C15 / C16 (a cycle report sits on a definition of the document it is published for).** Every
    circular-dependency diagnostic published for `f` comes from a detected cycle whose anchor definition lives in
    `f`, and its range is that definition's name. -/
theorem C16_published_cycle_in_file (st : Index) (dis : List String) (f : Path) (cy : List Cycle)
    (res : Def → String → Option Def) (d : Diag)
    (hd : d ∈ st.hDiagnostics dis f cy res) (hc : d.code = "circular-dependency") :
    ∃ c ∈ cy, c.fixture.file = f ∧
      d.loc = spanLoc f (toLsp c.fixture.line) c.fixture.startChar c.fixture.endChar := by
  rcases (mem_hDiagnostics hd).2 with ⟨_, _, rfl⟩ | ⟨c, hcm, hf, _, hl⟩ | ⟨_, _, h⟩
  · simp at hc
  · exact ⟨c, hcm, hf, hl⟩
  · simp [hc] at h

end PLS
