/-
  C16, soundness of cycle detection: what `compute_fixture_cycles` reports is a closed chain of the dependency graph
  it works on, the name-level graph `cyDeps`.  (Which graph that is — first registered definition per name — is the
  recorded finding E4; this file is about the DFS.)
-/
import PLS.Props.C12T
namespace PLS
namespace DfsS
open DfsT

def Edge (ix : List Def) (a b : String) : Prop := b ∈ cyDeps ix a

def Chain (ix : List Def) : List String → Prop
  | [] => True
  | [_] => True
  | a :: b :: rest => Edge ix a b ∧ Chain ix (b :: rest)

def ClosedChain (ix : List Def) (cp : List String) : Prop :=
  2 ≤ cp.length ∧ cp.head? = cp.getLast? ∧ Chain ix cp

theorem chain_tail {ix : List Def} {a : String} {l : List String} (h : Chain ix (a :: l)) : Chain ix l := by
  cases l with
  | nil => trivial
  | cons b r => exact h.2

theorem chain_append_one {ix : List Def} {l : List String} {c : String} (h : Chain ix l)
    (hl : ∀ x, l.getLast? = some x → Edge ix x c) : Chain ix (l ++ [c]) := by
  induction l with
  | nil => trivial
  | cons a r ih =>
    cases r with
    | nil => exact ⟨hl a rfl, trivial⟩
    | cons b r' => exact ⟨h.1, ih h.2 fun x hx => hl x (by simpa [List.getLast?_cons_cons] using hx)⟩

theorem chain_of_append {ix : List Def} {l m : List String} (h : Chain ix (l ++ m)) : Chain ix m := by
  induction l with
  | nil => exact h
  | cons a l ih => exact ih (chain_tail h)

theorem backPath_spec {ix : List Def} {path : List String} {cur dep : String} (hchain : Chain ix path)
    (hlast : path.getLast? = some cur) (hmem : dep ∈ path) :
    ∃ post, backPath path dep = (dep :: post) ++ [dep] ∧ Chain ix (dep :: post) ∧ (dep :: post).getLast? = some cur := by
  obtain ⟨pre, post, rfl, hpre⟩ := List.eq_append_cons_of_mem hmem
  exact ⟨post, backPath_append post hpre, chain_of_append hchain,
    by simpa only [List.getLast?_append, List.getLast?_cons, Option.some_or] using hlast⟩

theorem reported_closed (ix : List Def) {path : List String} {cur dep : String}
    (hchain : Chain ix path) (hlast : path.getLast? = some cur) (hedge : Edge ix cur dep) (hmem : dep ∈ path) :
    ClosedChain ix (backPath path dep) ∧ (backPath path dep).head? = some dep := by
  obtain ⟨post, hb, hch, hl⟩ := backPath_spec hchain hlast hmem
  rw [hb]
  refine ⟨⟨by simp, by rw [List.getLast?_concat]; rfl, chain_append_one hch fun x hx => ?_⟩, rfl⟩
  cases hl.symm.trans hx
  exact hedge

/-- a frame of the explicit stack: `f.1` the node `cur`, `f.2.1` the index `idx` of its next dependency, `f.2.2` its
    `path` from the root -/
abbrev Frame := String × Nat × List String

/-- the path of a frame is a chain; it ends in the frame's node once the frame is entered (`idx ≥ 1`: `cur` was
    appended on the first visit), and in a node with an edge to it before (`idx = 0`) -/
def FrameOK (ix : List Def) (f : Frame) : Prop :=
  Chain ix f.2.2 ∧ (1 ≤ f.2.1 → f.2.2.getLast? = some f.1) ∧
  (f.2.1 = 0 → ∀ l, f.2.2.getLast? = some l → Edge ix l f.1)

/-- a frame `c` carries the path of the frame `p` below it: as it is while `c` is not entered (`idx = 0`), with
    `c`'s node appended from then on -/
def Linked : List Frame → Prop
  | [] => True
  | [_] => True
  | c :: p :: rest => (c.2.1 = 0 → c.2.2 = p.2.2) ∧ (1 ≤ c.2.1 → c.2.2 = p.2.2 ++ [c.1]) ∧ Linked (p :: rest)

structure Inv2 (ix : List Def) (k : Sk) : Prop where
  base : Inv ix k
  frames : ∀ f ∈ k.stack, FrameOK ix f
  linked : Linked k.stack
  /-- the recursion stack lies on the path of the top frame (the second disjunct is empty) -/
  top : ∀ f, k.stack.head? = some f → ∀ x, x ∈ k.rs → x ∈ f.2.2 ∨ (f.2.1 = 0 ∧ False)

theorem linked_tail {c : Frame} {rest : List Frame} (h : Linked (c :: rest)) : Linked rest := by
  cases rest with
  | nil => trivial
  | cons p r => exact h.2.2

theorem linked_pathIn {cur : String} {idx : Nat} {path : List String} {p : Frame} {r : List Frame}
    (h : Linked ((cur, idx, path) :: p :: r)) : pathIn path cur idx = p.2.2 ++ [cur] := by
  cases idx with
  | zero => exact congrArg (· ++ [cur]) (h.1 rfl)
  | succ n => exact h.2.1 (Nat.succ_pos n)

theorem linked_back {cur : String} {idx : Nat} {path : List String} {rest : List Frame}
    (h : Linked ((cur, idx, path) :: rest)) : Linked ((cur, idx + 1, pathIn path cur idx) :: rest) := by
  cases rest with
  | nil => trivial
  | cons p r => exact ⟨fun h0 => absurd h0 (Nat.succ_ne_zero idx), fun _ => linked_pathIn h, h.2.2⟩

/-- the invariant read off the top frame as entered: the cases `idx = 0` and `idx ≥ 1` are told apart here, once -/
theorem top_facts {ix : List Def} {cur : String} {idx : Nat} {path : List String} {rest : List Frame} {vis rs : List String}
    (h : Inv2 ix ⟨(cur, idx, path) :: rest, vis, rs⟩) :
    Chain ix (pathIn path cur idx) ∧ (pathIn path cur idx).getLast? = some cur ∧
      ∀ x, x ∈ rsIn rs cur idx → x ∈ pathIn path cur idx := by
  obtain ⟨hch, hpos, hzero⟩ := h.frames _ List.mem_cons_self
  have htop : ∀ x ∈ rs, x ∈ path := fun x hx => (h.top _ rfl x hx).resolve_right And.right
  cases idx with
  | zero =>
    refine ⟨chain_append_one hch (hzero rfl), List.getLast?_concat, fun x hx => ?_⟩
    rcases mem_setInsert.mp hx with hx | rfl
    · exact List.mem_append_left _ (htop x hx)
    · exact List.mem_append_right _ (List.mem_singleton_self _)
  | succ n => exact ⟨hch, hpos (Nat.succ_pos n), htop⟩

theorem inv2_step {ix : List Def} {s s' : Dfs} (h : Inv2 ix (proj s)) (hst : Step ix s s') : Inv2 ix (proj s') := by
  cases hst with
  | pop _ =>
    refine {
      base := ⟨(List.forall_mem_cons.mp h.base.idx_le).2, fun f hf => h.base.tail_pos f (List.mem_of_mem_tail hf)⟩
      frames := (List.forall_mem_cons.mp h.frames).2
      linked := linked_tail h.linked
      top := fun p hp x hx => Or.inl ?_ }
    -- `x` lies on the popped frame's path, which is `p`'s with the popped node appended, and is not that node
    obtain ⟨r, rfl⟩ := List.head?_eq_some_iff.mp hp
    obtain ⟨hx1, hx2⟩ := List.mem_filter.mp hx
    have := (top_facts h).2.2 x hx1
    rw [linked_pathIn h.linked, List.mem_append, List.mem_singleton] at this
    exact this.resolve_right (bne_iff_ne.mp hx2)
  | adv hdep _ =>
    obtain ⟨hchain, hlast, hrs⟩ := top_facts h
    exact {
      base := ⟨List.forall_mem_cons.mpr ⟨(List.getElem?_eq_some_iff.mp hdep).1, (List.forall_mem_cons.mp h.base.idx_le).2⟩,
        h.base.tail_pos⟩
      frames := List.forall_mem_cons.mpr
        ⟨⟨hchain, fun _ => hlast, fun h0 => absurd h0 (Nat.succ_ne_zero _)⟩, (List.forall_mem_cons.mp h.frames).2⟩
      linked := linked_back h.linked
      top := fun f hf x hx => by cases hf; exact Or.inl (hrs x hx) }
  | push hdep _ _ =>
    obtain ⟨hchain, hlast, hrs⟩ := top_facts h
    refine {
      base := ⟨List.forall_mem_cons.mpr ⟨Nat.zero_le _,
          List.forall_mem_cons.mpr ⟨(List.getElem?_eq_some_iff.mp hdep).1, (List.forall_mem_cons.mp h.base.idx_le).2⟩⟩,
        List.forall_mem_cons.mpr ⟨Nat.succ_pos _, h.base.tail_pos⟩⟩
      frames := List.forall_mem_cons.mpr ⟨⟨hchain, fun h1 => absurd h1 (Nat.not_succ_le_zero 0), fun _ l hl => ?_⟩,
        List.forall_mem_cons.mpr
          ⟨⟨hchain, fun _ => hlast, fun h0 => absurd h0 (Nat.succ_ne_zero _)⟩, (List.forall_mem_cons.mp h.frames).2⟩⟩
      linked := ⟨fun _ => rfl, fun h1 => absurd h1 (Nat.not_succ_le_zero 0), linked_back h.linked⟩
      top := fun f hf x hx => by cases hf; exact Or.inl (hrs x hx) }
    -- the path handed to the new frame ends in the node it is a dependency of
    cases hlast.symm.trans hl
    exact List.mem_of_getElem? hdep

def CyclesSound (ix : List Def) (cs : List Cycle) : Prop :=
  ∀ c ∈ cs, ClosedChain ix c.path ∧ ∃ n, c.path.head? = some n ∧ cyDef ix n = some c.fixture

theorem sound_step {ix : List Def} {s s' : Dfs} (hinv : Inv2 ix (proj s)) (hst : Step ix s s')
    (hc : CyclesSound ix s.cycles) : CyclesSound ix s'.cycles := by
  cases hst with
  | pop | push => exact hc
  | adv hdep hn =>
    cases hn with
    | skip | dup => exact hc
    | new d hin _ hd =>
      obtain ⟨hchain, hlast, hrs⟩ := top_facts hinv
      obtain ⟨hclosed, hhead⟩ := reported_closed ix hchain hlast (List.mem_of_getElem? hdep) (hrs _ hin)
      intro c hcm
      rcases List.mem_append.mp hcm with hcm | hcm
      · exact hc c hcm
      · cases List.mem_singleton.mp hcm
        exact ⟨hclosed, _, hhead, hd⟩

theorem inv2_start (ix : List Def) (s : Dfs) (r : String) : Inv2 ix (proj (start s r)) where
  base := inv_start ix s r
  frames f hf := by
    cases List.mem_singleton.mp hf
    exact ⟨trivial, fun h => absurd h (Nat.not_succ_le_zero 0), fun _ l hl => by cases hl⟩
  linked := trivial
  top f _ x hx := by cases hx

end DfsS

open DfsS DfsT in
/-- **C16 (cycle reports are sound, for every dependency graph and every root order).** Each entry
    of `compute_fixture_cycles`' result names a path that (i) has at least two entries, (ii) starts
    and ends with the same fixture name, (iii) follows a dependency edge of the graph at every step,
    and (iv) is anchored at the definition the graph uses for that first fixture.  The DFS reports
    no open path, invents no edge and mislabels no anchor. -/
theorem C16_reported_cycles_are_cycles (ix : List Def) (roots : List String) :
    ∀ c ∈ computeCycles ix roots,
      ClosedChain ix c.path ∧ ∃ n, c.path.head? = some n ∧ cyDef ix n = some c.fixture :=
  roots_induct ix (fun s => CyclesSound ix s.cycles) roots
    (fun s r _ h => (dfsRun_induct ix (fun s => Inv2 ix (proj s) ∧ CyclesSound ix s.cycles)
      (fun h hst => ⟨inv2_step h.1 hst, sound_step h.1 hst h.2⟩) _ _ ⟨inv2_start ix s r, h⟩).2)
    {} (fun c hc => by cases hc)

end PLS
