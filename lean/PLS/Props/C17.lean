/-
  C17 — undeclared-fixture warnings are precise and their quick fix works.
-/
import PLS.Lemmas.Analyze
namespace PLS
open Index

theorem pushUndeclared_lookup (l : List (Path × List Undeclared)) (f : Path) (u : Undeclared) :
    (alookup (pushUndeclared l f u) f).getD [] = (alookup l f).getD [] ++ [u] := by
  fun_cases pushUndeclared l f u with
  | case1 us hl => rw [alookup_mapAt l f (fun _ => us ++ [u]), hl]; rfl  -- the file has an entry
  | case2 hl => rw [alookup_append, hl, alookup_cons, if_pos (beq_iff_eq.mpr rfl)]; rfl  -- a new entry at the end

/-- what one body scan adds to the file's findings -/
def scanFindings (f : Path) (b : BodyScan) (avail : String → Bool) : List Undeclared :=
  (b.refs.filter (fun r => b.candidate r && avail r.name)).map (fun r =>
    Undeclared.mk r.name f r.line r.startChar r.endChar b.fnName b.fnLine)

/-- **C17 (exactly the plain uses are flagged, each at its own position).**  After the body scan
    of a function, the findings added for the file are `scanFindings`: one per visited `Name`
    reference that is (i) not a declared parameter, (ii) not a local variable bound on an earlier
    line, nor a module-level / imported name, (iii) the name of a fixture available to the file —
    with the reference's own line and columns. -/
theorem C17_scan_exact (pfx f : Path) (b : BodyScan) (st : Index) :
    (alookup (applyEvent pfx f st (.scan b)).undeclared f).getD [] =
      (alookup st.undeclared f).getD [] ++ scanFindings f b (st.isAvail f) := by
  simp only [applyEvent, scanFindings]
  generalize b.refs = refs
  induction refs generalizing st with
  | nil => rw [List.filter_nil, List.map_nil, List.append_nil, List.foldl_nil]
  | cons r rs ih =>
    rw [List.foldl_cons, ih, List.filter_cons]
    -- a step writes `undeclared` only: the availability test reads the same definitions throughout
    fun_cases scanStep f b st r with
    | case1 hc =>  -- flagged
      rw [if_pos hc]
      simp only [isAvail, pushUndeclared_lookup, List.map_cons, List.append_assoc, List.singleton_append]
      rfl
    | case2 hc => rw [if_neg hc]  -- not flagged: the state stays

theorem mem_scanFindings {f : Path} {b : BodyScan} {avail : String → Bool} {u : Undeclared} :
    u ∈ scanFindings f b avail ↔ ∃ r ∈ b.refs, (b.candidate r = true ∧ avail r.name = true) ∧
      Undeclared.mk r.name f r.line r.startChar r.endChar b.fnName b.fnLine = u := by
  simp only [scanFindings, List.mem_map, List.mem_filter, Bool.and_eq_true, and_assoc]

theorem candidate_iff (b : BodyScan) (r : NameRef) : b.candidate r = true ↔
    r.name ∉ b.declared ∧ ∀ dl, lookupFirst b.locals r.name = some dl → ¬ dl < r.line := by
  unfold BodyScan.candidate
  cases lookupFirst b.locals r.name <;>
    simp only [List.contains_eq_mem, Bool.and_eq_true, Bool.not_eq_eq_eq_not, Bool.not_true, Bool.not_false, Bool.and_true,
      decide_eq_false_iff_not, reduceCtorEq, Option.some.injEq, forall_eq', false_implies, implies_true, and_true]

/-- **C17 (never).** Every finding is about an undeclared, unshadowed name of an available fixture. -/
theorem C17_never (f : Path) (b : BodyScan) (avail : String → Bool) (u : Undeclared)
    (h : u ∈ scanFindings f b avail) :
    u.name ∉ b.declared ∧ avail u.name = true ∧
    (∀ dl, lookupFirst b.locals u.name = some dl → ¬ dl < u.line) ∧
    ∃ r ∈ b.refs, u.name = r.name ∧ u.line = r.line ∧ u.startChar = r.startChar ∧ u.endChar = r.endChar := by
  obtain ⟨r, hr, ⟨hc, hav⟩, rfl⟩ := mem_scanFindings.mp h
  exact ⟨((candidate_iff b r).mp hc).1, hav, ((candidate_iff b r).mp hc).2, r, hr, rfl, rfl, rfl, rfl⟩

/-- **C17 (always).** Every visited reference meeting the three conditions is flagged. -/
theorem C17_always (f : Path) (b : BodyScan) (avail : String → Bool) (r : NameRef)
    (hr : r ∈ b.refs) (hd : r.name ∉ b.declared) (hav : avail r.name = true)
    (hloc : ∀ dl, lookupFirst b.locals r.name = some dl → ¬ dl < r.line) :
    Undeclared.mk r.name f r.line r.startChar r.endChar b.fnName b.fnLine ∈ scanFindings f b avail :=
  mem_scanFindings.mpr ⟨r, hr, ⟨(candidate_iff b r).mpr ⟨hd, hloc⟩, hav⟩, rfl⟩

/-- a module-level or imported name is never flagged (it is bound "at line 0") -/
theorem C17_module_names_never (f : Path) (b : BodyScan) (avail : String → Bool) (n : String)
    (hn : lookupFirst b.locals n = some 0) (hpos : ∀ r ∈ b.refs, 0 < r.line) :
    ∀ u ∈ scanFindings f b avail, u.name ≠ n := by
  intro u hu hname
  obtain ⟨_, _, hloc, r, hr, _, hrl, _, _⟩ := C17_never f b avail u hu
  exact hloc 0 (hname ▸ hn) (hrl ▸ hpos r hr)

theorem minLine_some (a : Nat) (xs : List Nat) : minLine (some a) xs = some (xs.foldl min a) := by
  induction xs generalizing a with
  | nil => rfl
  | cons x xs ih => rw [minLine, ih, List.foldl_cons]

theorem lookupFirst_eq_min? (l : List (String × Nat)) (n : String) :
    lookupFirst l n = ((l.filter (fun p => p.1 == n)).map (·.2)).min? := by
  unfold lookupFirst
  cases (l.filter (fun p => p.1 == n)).map (·.2) with
  | nil => rfl
  | cons x xs => exact minLine_some x xs

/-- **C17 (a local variable bound on an earlier line is never flagged)** — whatever else binds the
    name again further down: the FIRST binding counts (since the repair of `collect_local_variables`;
    before, `HashMap::insert` kept the last binding and uses between two bindings were flagged). -/
theorem C17_bound_earlier_never (f : Path) (b : BodyScan) (avail : String → Bool) (n : String) (dl : Nat)
    (hb : (n, dl) ∈ b.locals) :
    ∀ u ∈ scanFindings f b avail, u.name = n → ¬ dl < u.line := by
  intro u hu hname hlt
  obtain ⟨_, _, hloc, _⟩ := C17_never f b avail u hu
  subst hname
  have hmem : dl ∈ (b.locals.filter (fun p => p.1 == u.name)).map (·.2) :=
    List.mem_map.mpr ⟨(u.name, dl), List.mem_filter.mpr ⟨hb, beq_iff_eq.mpr rfl⟩, rfl⟩
  obtain ⟨m, hm⟩ := Option.isSome_iff_exists.mp (List.isSome_min?_of_mem hmem)
  exact hloc m (by rw [lookupFirst_eq_min?, hm]) (Nat.lt_of_le_of_lt ((List.min?_eq_some_iff.mp hm).2 dl hmem) hlt)

example : lookupFirst [("x", 3), ("x", 10)] "x" = some 3 := by decide +kernel

/-- which expression forms yield references (the "plain uses" of the statement): call target,
    positional AND keyword arguments, attribute base, operands, subscript value and index,
    collection elements, awaited and yielded values, and the parts of the forms that only combine
    sub-expressions (`group`: boolean operators, conditional expressions, set displays, starred
    items, slices, f-strings) - every child of every modelled form; what the bridge leaves as
    `other` (lambdas, comprehensions, assignment expressions: forms that bind names) is not entered -/
theorem C17_visited_forms (n : String) (r r2 : Range) (e : Expr) :
    refsOfExpr (.call (.name n r) [] [] [] r2) = [⟨n, r.line, r.col, r.endCol⟩] ∧
    refsOfExpr (.call e [.name n r] [] [] r2) = refsOfExpr e ++ [⟨n, r.line, r.col, r.endCol⟩] ∧
    refsOfExpr (.attribute (.name n r) "a" r2) = [⟨n, r.line, r.col, r.endCol⟩] ∧
    refsOfExpr (.subscript (.name n r) e r2) = ⟨n, r.line, r.col, r.endCol⟩ :: refsOfExpr e ∧
    refsOfExpr (.list [.name n r] r2) = [⟨n, r.line, r.col, r.endCol⟩] ∧
    refsOfExpr (.call e [] [some "k"] [.name n r] r2) = refsOfExpr e ++ [⟨n, r.line, r.col, r.endCol⟩] ∧
    refsOfExpr (.group [e, .name n r] r2) = refsOfExpr e ++ [⟨n, r.line, r.col, r.endCol⟩] ∧
    refsOfExpr (.yield [.name n r] r2) = [⟨n, r.line, r.col, r.endCol⟩] ∧
    refsOfExpr (.other r2) = [] := by
  simp only [refsOfExpr, refsOfExprs, List.append_nil, List.singleton_append, and_self]

/-- a name under a keyword argument is a reference (the form the visitor skipped before the repair) -/
example (n : String) (r r2 : Range) (e : Expr) :
    refsOfExpr (.call e [] [some "k"] [.name n r] r2) ≠ refsOfExpr e := by
  simp only [refsOfExpr, refsOfExprs, List.append_nil, ne_eq, List.append_right_eq_self, List.cons_ne_nil,
    not_false_eq_true]

/-- **C17 (parameters).** No parameter of a test function is ever flagged in its body — positional, keyword-only,
    with or without a default value (a defaulted parameter is never a fixture REQUEST, but it is a parameter of the
    enclosing function all the same), and neither are `self` and `request`. -/
theorem C17_test_parameters_never (f : Path) (modNames : List String) (name : String) (args : Args)
    (body : List Stmt) (r : Range) (avail : String → Bool) (b : BodyScan)
    (hb : Event.scan b ∈ testEvents f modNames name args body r) :
    ∀ u ∈ scanFindings f b avail, u.name ≠ "self" ∧ u.name ≠ "request" ∧ ∀ a ∈ args.all, u.name ≠ a.name := by
  intro u hu
  obtain ⟨hnd, _⟩ := C17_never f b avail u hu
  rcases mem_testEvents hb with ⟨_, h⟩ | h <;> cases h
  simp only [List.mem_append, List.mem_cons, List.mem_map, not_or] at hnd
  exact ⟨hnd.1.1, hnd.1.2.1, fun a ha h => hnd.2 ⟨a, ha, h.symm⟩⟩

/-- the same for a fixture function, whose own name is not flagged either -/
theorem C17_fixture_parameters_never (f : Path) (lines : List Chars) (modNames : List String) (name : String)
    (deco : Expr) (args : Args) (returns : Option Expr) (body : List Stmt) (r : Range) (doc : Option String)
    (avail : String → Bool) (b : BodyScan)
    (hb : Event.scan b ∈ fixtureEvents f lines modNames name deco args returns body r doc) :
    ∀ u ∈ scanFindings f b avail, u.name ≠ name ∧ ∀ a ∈ args.all, u.name ≠ a.name := by
  intro u hu
  obtain ⟨hnd, _⟩ := C17_never f b avail u hu
  rcases mem_fixtureEvents hb with h | ⟨_, h⟩ | h <;> cases h
  simp only [List.mem_append, List.mem_cons, List.mem_map, not_or] at hnd
  exact ⟨hnd.1.2.2.1, fun a ha h => hnd.2 ⟨a, ha, h.symm⟩⟩

/-- non-vacuity: a test with a defaulted parameter used in its body, a fixture of that name being available -/
example : scanFindings ["t.py"]
    ⟨"test_a", 1, ["self", "request"] ++ ["retries"], [], [⟨"retries", 2, 4, 11⟩, ⟨"other", 3, 4, 9⟩]⟩ (fun _ => true)
    = [⟨"other", ["t.py"], 3, 4, 9, "test_a", 1⟩] := by decide +kernel

/-- **C17 (only parameters declare).** Whatever decorators a function carries — `@pytest.mark.usefixtures("x")` included —
    the names its body scan treats as declared are `self`, `request`, its parameters and, for a fixture, its own name:
    a fixture requested through a mark is still an undeclared name in the body. -/
theorem C17_declared_is_parameters (f : Path) (lines : List Chars) (modNames : List String) (name : String)
    (decos : List Expr) (args : Args) (returns : Option Expr) (body : List Stmt) (r : Range) (b : BodyScan)
    (hb : Event.scan b ∈ visitFunction f lines modNames name decos args returns body r) :
    b.declared = ["self", "request"] ++ args.all.map (·.name) ∨
    b.declared = ["self", "request", name] ++ args.all.map (·.name) := by
  rcases mem_visitFunction hb with ⟨_, h⟩ | h | ⟨_, h⟩
  · cases h
  · rcases mem_testEvents h with ⟨_, h⟩ | h <;> cases h
    exact .inl rfl
  · rcases mem_fixtureEvents h with h | ⟨_, h⟩ | h <;> cases h
    exact .inr rfl

theorem moduleLevelNames_append (a b : List Stmt) :
    moduleLevelNames (a ++ b) = moduleLevelNames a ++ moduleLevelNames b := by
  induction a with
  | nil => rfl
  | cons s ss ih =>
    show _ ++ moduleLevelNames (ss ++ b) = _ ++ moduleLevelNames ss ++ _
    rw [ih, List.append_assoc]

/-- **C17 / C19 (a module-level name counts wherever it is bound).** The names a function's body scan treats as
    module-level are computed from the WHOLE module before any function is visited: a name bound below the function
    (a helper `def`, a class, an assignment, an import placed after it) is among them exactly as one bound above it. -/
theorem C17_module_names_position_independent (above below : List Stmt) (n : String) :
    n ∈ moduleLevelNames (above ++ below) ↔ n ∈ moduleLevelNames (below ++ above) := by
  simp [moduleLevelNames_append, or_comm]

/-- the analysis hands every function of the module that one list -/
theorem C17_module_names_are_whole_module (stdlib : List String) (f : Path) (text : Chars) (body : List Stmt) :
    (analyzeModule stdlib f text body).modNames = moduleLevelNames body ∧
    (analyzeModule stdlib f text body).events =
      cutAtPanic (visitStmts f (linesOf text) (moduleLevelNames body) body) := ⟨rfl, rfl⟩

end PLS
