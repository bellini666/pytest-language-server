/-
  C18 — completion offers exactly the usable fixtures, only where they can be requested.
-/
import PLS.Model.Completion
import PLS.Props.C05
namespace PLS
open Index

/-- the sort classes are the ones of the Rust source as extracted on this run -/
theorem C18_priority_table :
    Generated.completionPriorities = [("fixture.file_path == current_file", 0), ("fixture.is_third_party", 3),
      ("fixture.is_plugin", 2), ("else", 1)] ∧
    Generated.excludedParamNames = ["self", "cls"] := ⟨rfl, rfl⟩

/-- **C18 (sort order: same file, then conftest / other project files, then plugin, then
    third-party; ties broken by name through the `"{priority}_{name}"` text).** -/
theorem C18_sort_classes (d : Def) (cur : Path) :
    (d.file = cur → sortPriority d cur = 0) ∧
    (d.file ≠ cur → d.thirdParty = true → sortPriority d cur = 3) ∧
    (d.file ≠ cur → d.thirdParty = false → d.plugin = true → sortPriority d cur = 2) ∧
    (d.file ≠ cur → d.thirdParty = false → d.plugin = false → sortPriority d cur = 1) := by
  unfold sortPriority
  refine ⟨fun h => if_pos (beq_iff_eq.mpr h), fun h t => ?_, fun h t p => ?_, fun h t p => ?_⟩
  · rw [if_neg (mt beq_iff_eq.mp h), t]; rfl
  · rw [if_neg (mt beq_iff_eq.mp h), t, p]; rfl
  · rw [if_neg (mt beq_iff_eq.mp h), t, p]; rfl

/-- **C18 (what is filtered out): a name already declared, the fixture being edited, `self`/`cls`,
    and — inside a fixture — fixtures of narrower scope.  Nothing else.** -/
theorem C18_excluded_iff (d : Def) (declared : Option (List String)) (current : Option String) (scope : Option Scope) :
    excluded d declared current scope = true ↔
      (d.name ∈ Generated.excludedParamNames ∨ current = some d.name ∨
       (∃ ps, declared = some ps ∧ d.name ∈ ps) ∨ (∃ s, scope = some s ∧ d.scope < s)) := by
  unfold excluded
  rw [Bool.or_eq_true, Bool.or_eq_true, Bool.or_eq_true, or_assoc, or_assoc]
  refine or_congr List.contains_iff_mem (or_congr ?_ (or_congr ?_ ?_))
  · cases current with
    | none => simp
    | some n => exact beq_iff_eq.trans (eq_comm.trans Option.some_inj.symm)
  · cases declared <;> simp
  · cases scope <;> simp

/-- **C18 (every name is offered once)**: filtering the per-file view keeps names distinct. -/
theorem C18_labels_nodup (ix : List Def) (cimp : Path → String → Bool) (f : Path)
    (p : Def → Bool) : (((available ix cimp f).filter p).map (·.name)).Nodup :=
  (C05_names_nodup ix cimp f).sublist (List.filter_sublist.map _)

/-- **C18 (signature vs body)**: inside a test/fixture function the context is "signature" up to
    the line the signature ends on, "body" below — and there is a context exactly when the
    cursor line is inside the function's range and the function is a test or a fixture. -/
theorem C18_func_context (lines : List Chars) (target : Nat) (name : String) (decos : List Expr)
    (args : Args) (ret : Option Expr) (body : List Stmt) (r : Range) :
    ((funcCtx lines target name decos args ret body r).isSome = true ↔
      (r.line ≤ target ∧ target ≤ r.endLine ∧ (name.startsWith "test_" = true ∨ decos.any isFixtureDecorator = true))) ∧
    (∀ fn l fx ps sc, funcCtx lines target name decos args ret body r = some (.signature fn l fx ps sc) →
      target ≤ signatureEndLine lines r.line args ret body) ∧
    (∀ fn l fx ps sc, funcCtx lines target name decos args ret body r = some (.body fn l fx ps sc) →
      signatureEndLine lines r.line args ret body < target) := by
  -- the two guards of `funcCtx`, as propositions
  have hrange : ¬ (decide (target < r.line) || decide (target > r.endLine)) = true ↔
      r.line ≤ target ∧ target ≤ r.endLine := by
    simp only [Bool.or_eq_true, decide_eq_true_eq, gt_iff_lt, not_or, Nat.not_lt]
  have hkind : ∀ isTest isFixture : Bool, ¬ (!isTest && !isFixture) = true ↔ isTest = true ∨ isFixture = true := by
    decide
  fun_cases funcCtx lines target name decos args ret body r with
  | case1 hout => -- cursor outside the function's lines
    exact ⟨⟨nofun, fun h => absurd hout (hrange.mpr ⟨h.1, h.2.1⟩)⟩, fun _ _ _ _ _ => nofun, fun _ _ _ _ _ => nofun⟩
  | case2 _ _ _ hnk => -- neither a test nor a fixture
    exact ⟨⟨nofun, fun h => absurd hnk ((hkind _ _).mpr h.2.2)⟩, fun _ _ _ _ _ => nofun, fun _ _ _ _ _ => nofun⟩
  | case3 hin _ _ hk _ _ _ hs => -- up to the signature's end
    exact ⟨⟨fun _ => ⟨(hrange.mp hin).1, (hrange.mp hin).2, (hkind _ _).mp hk⟩, fun _ => rfl⟩,
      fun _ _ _ _ _ _ => hs, fun _ _ _ _ _ h => nomatch h⟩
  | case4 hin _ _ hk _ _ _ hs => -- below it
    exact ⟨⟨fun _ => ⟨(hrange.mp hin).1, (hrange.mp hin).2, (hkind _ _).mp hk⟩, fun _ => rfl⟩,
      fun _ _ _ _ _ h => (nomatch h), fun _ _ _ _ _ _ => Nat.lt_of_not_le hs⟩

/-- **C18 (a parametrize decorator is a fixture-name context only when it is indirect)** — since
    the E18 repair: a cursor on the lines of `@pytest.mark.parametrize(...)` gives a context iff the
    call carries `indirect=` with something other than the constant `False` (before, ANY
    parametrize decorator did). -/
theorem C18_parametrize_iff_indirect (target : Nat) (d : Expr) (ds : List Expr)
    (hline : d.range.line ≤ target ∧ target ≤ d.range.endLine)
    (hu : isUsefixtures d = false) :
    (isIndirectParametrize d = true → decoCtx target (d :: ds) = some .parametrize) ∧
    (isIndirectParametrize d = false → decoCtx target (d :: ds) = decoCtx target ds) := by
  constructor
  · intro hp; simp [decoCtx, hline.1, hline.2, hu, hp]
  · intro hp; simp [decoCtx, hline.1, hline.2, hu, hp]

/-- `parametrize("a", [1, 2])` without `indirect=` is not indirect; with `indirect=True` it is -/
example : isIndirectParametrize (.call (.attribute (.attribute (.name "pytest" ⟨1,1,1,7⟩) "mark" ⟨1,1,1,12⟩) "parametrize" ⟨1,1,1,24⟩)
    [.constant (.str "a") ⟨1,25,1,28⟩] [] [] ⟨1,1,1,40⟩) = false := by decide +kernel
example : isIndirectParametrize (.call (.attribute (.attribute (.name "pytest" ⟨1,1,1,7⟩) "mark" ⟨1,1,1,12⟩) "parametrize" ⟨1,1,1,24⟩)
    [.constant (.str "a") ⟨1,25,1,28⟩] [some "indirect"] [.constant (.bool true) ⟨1,40,1,44⟩] ⟨1,1,1,45⟩) = true := by decide +kernel

/-- **C18 (a document that parses is judged by its AST alone).** The text heuristics written for
    half-typed code are not consulted for a valid document: a `def` line the analyzer does not treat
    as a test or fixture (a helper nested in a function, a function under `if`) gives no context —
    like its body (before the repair the fallback ran on valid documents too). -/
theorem C18_valid_uses_ast (lower : String → String) (st : Index) (f : Path) (line0 : Nat) (v : Version) (fr : FileRec)
    (hc : st.content f = some v) (hp : v.parsed = some fr) :
    st.completionContext lower f line0 =
      (decoratorCtx (line0 + 1) fr.body).orElse (fun _ => functionCtx (linesOf v.text.toList) (line0 + 1) fr.body) := by
  unfold Index.completionContext
  rw [hc]
  simp only [hp]

/-- **C18 (handler: what a signature or body completion offers).** The labels are exactly the names of the per-file
    view that `excluded` lets through, where the "function being edited" is handed to the filter ONLY when that function
    is a fixture: a test function named like a visible fixture is offered that fixture like any other name. -/
theorem C18_offered_in_function (lower : String → String) (st : Index) (f : Path) (line0 : Nat) (comma : Bool)
    (fn : String) (fnLine : Nat) (isFx : Bool) (declared : List String) (scope : Option Scope)
    (h : st.completionContext lower f line0 = some (.signature fn fnLine isFx declared scope) ∨
         st.completionContext lower f line0 = some (.body fn fnLine isFx declared scope)) :
    ((hCompletion lower st f line0 comma).1.map (fun l => l.map (·.label))) =
      some (((st.availableSt f).1.filter
        (fun d => !excluded d (some declared) (if isFx then some fn else none) scope)).map (·.name)) := by
  unfold hCompletion
  -- the label of the item made for `d` is `d.name` by definition
  rcases h with h | h <;> rw [h] <;> exact congrArg some (List.map_map ..)

/-- the filter a TEST function's completion applies (that of `C18_offered_in_function` at `isFx = false`) never
    looks at the function's own name -/
theorem C18_test_not_self_excluded (d : Def) (declared : List String) (fn : String) (scope : Option Scope) :
    excluded d (some declared) (if false then some fn else none) scope =
      (Generated.excludedParamNames.contains d.name || declared.contains d.name ||
       (match scope with | some s => decide (d.scope < s) | none => false)) := by
  unfold excluded
  rw [if_neg Bool.false_ne_true, Bool.or_false]
  rfl

/-- … while a fixture's (`isFx = true`) does: its own name is withheld -/
theorem C18_fixture_self_excluded (d : Def) (declared : List String) (scope : Option Scope) :
    excluded d (some declared) (if true then some d.name else none) scope = true :=
  (C18_excluded_iff d _ _ scope).mpr (.inr (.inl rfl))

end PLS
