/-
  C19 — published diagnostics track the latest content and the configuration.
-/
import PLS.Model.Config
import PLS.Props.C06
import PLS.Props.C16
import PLS.Props.C17
namespace PLS
open Index

/-- **C19 (tables, regenerated from `config/mod.rs` and `providers/diagnostics.rs` on this run).**
    The codes `from_raw` accepts, the codes the publisher attaches, and the codes it asks
    `is_diagnostic_disabled` about are one and the same set — the three of the statement. -/
theorem C19_tables :
    (∀ c, c ∈ Generated.validDiagnosticCodes ↔ c ∈ Generated.emittedDiagnosticCodes) ∧
    (∀ c, c ∈ Generated.validDiagnosticCodes ↔ c ∈ Generated.checkedDiagnosticCodes) ∧
    (∀ c, c ∈ Generated.validDiagnosticCodes ↔
      c = "undeclared-fixture" ∨ c = "circular-dependency" ∨ c = "scope-mismatch") ∧
    Generated.checkedDiagnosticCodes.Nodup := by
  -- the same three codes in different orders: membership is one disjunction, its terms permuted
  refine ⟨fun c => ?_, fun c => ?_, fun c => ?_, by simp [Generated.checkedDiagnosticCodes]⟩ <;>
    simp only [Generated.validDiagnosticCodes, Generated.emittedDiagnosticCodes, Generated.checkedDiagnosticCodes,
      List.mem_cons, List.not_mem_nil, false_or, or_comm, or_left_comm]

theorem filter_code_map {α} (p : String → Bool) (c : String) (loc : α → Loc) (msg : α → String) (l : List α) :
    (l.map (fun a => ({ code := c, loc := loc a, message := msg a } : Diag))).filter (fun d => p d.code) =
      if p c then l.map (fun a => { code := c, loc := loc a, message := msg a }) else [] := by
  simp only [List.filter_map, Function.comp_def]
  cases p c
  · exact congrArg (List.map _) (List.filter_eq_nil_iff.mpr fun _ _ => Bool.false_ne_true)
  · exact congrArg _ (List.filter_eq_self.mpr fun _ _ => rfl)

/-- **C19 (exactly the findings minus the disabled codes).** What is published under a set of
    disabled codes is what would be published with nothing disabled, minus the diagnostics whose
    code is in the set — nothing else is dropped, nothing is added, order is kept. -/
theorem C19_filter (st : Index) (dis : List String) (f : Path) (cy : List Cycle)
    (res : Def → String → Option Def) :
    st.hDiagnostics dis f cy res = (st.hDiagnostics [] f cy res).filter (fun d => !dis.contains d.code) := by
  unfold hDiagnostics
  simp only [List.contains_nil, Bool.false_eq_true, if_false, List.filter_append,
    filter_code_map (fun c => !dis.contains c), Bool.not_eq_true', ← Bool.not_eq_true, ite_not]

theorem mem_hDiagnostics {st : Index} {dis : List String} {f : Path} {cy : List Cycle}
    {res : Def → String → Option Def} {d : Diag} (h : d ∈ st.hDiagnostics dis f cy res) :
    d.code ∉ dis ∧
    ((∃ u ∈ (alookup st.undeclared f).getD [], d =
        { code := "undeclared-fixture", loc := spanLoc f (toLsp u.line) u.startChar u.endChar,
          message := "Fixture '" ++ u.name ++ "' is used but not declared as a parameter" }) ∨
     (∃ c ∈ cy, c.fixture.file = f ∧ d.code = "circular-dependency" ∧
        d.loc = spanLoc f (toLsp c.fixture.line) c.fixture.startChar c.fixture.endChar) ∨
     (∃ m ∈ mismatchesIn st.defs res ((alookup st.fileDefs f).getD []) f, d.code = "scope-mismatch")) := by
  rw [C19_filter, List.mem_filter] at h
  refine ⟨by simpa using h.2, ?_⟩
  have := h.1
  simp only [hDiagnostics, List.contains_nil, Bool.false_eq_true, if_false, List.mem_append, List.mem_map,
    List.mem_filter, beq_iff_eq] at this
  rcases this with (⟨u, hu, rfl⟩ | ⟨c, hc, rfl⟩) | ⟨m, hm, rfl⟩
  · exact Or.inl ⟨u, hu, rfl⟩
  · exact Or.inr (Or.inl ⟨c, hc.1, hc.2, rfl, rfl⟩)
  · exact Or.inr (Or.inr ⟨m, hm, rfl⟩)

theorem C19_codes (st : Index) (dis : List String) (f : Path) (cy : List Cycle)
    (res : Def → String → Option Def) (d : Diag)
    (h : d ∈ st.hDiagnostics dis f cy res) : d.code ∈ Generated.validDiagnosticCodes := by
  rcases (mem_hDiagnostics h).2 with ⟨_, _, rfl⟩ | ⟨_, _, _, hc, _⟩ | ⟨_, _, hc⟩ <;>
    simp [Generated.validDiagnosticCodes, *]

/-- **C19 (codes are judged one by one).** A code ends up disabled iff it is listed and valid;
    the other entries of the list — unknown codes included — play no part. -/
theorem C19_config_codes (compiles : String → Bool) (raw : RawConfig) (c : String) :
    (Config.fromRaw compiles raw).isDisabled c = true ↔
      c ∈ raw.disabledDiagnostics ∧ c ∈ Generated.validDiagnosticCodes := by
  simp [Config.fromRaw, Config.isDisabled]

/-- **C19 (patterns are judged one by one).** A pattern is kept iff it is listed and compiles;
    an invalid pattern removes nothing else. -/
theorem C19_config_patterns (compiles : String → Bool) (raw : RawConfig) (p : String) :
    p ∈ (Config.fromRaw compiles raw).exclude ↔ p ∈ raw.exclude ∧ compiles p = true := by
  simp [Config.fromRaw, List.mem_filter]

/-- the two validations do not interact, and neither touches the other two settings -/
theorem C19_config_independent (compiles : String → Bool) (raw : RawConfig) (ex ex' : List String)
    (dd dd' : List String) :
    (Config.fromRaw compiles { raw with exclude := ex }).disabledDiagnostics =
      (Config.fromRaw compiles { raw with exclude := ex' }).disabledDiagnostics ∧
    (Config.fromRaw compiles { raw with disabledDiagnostics := dd }).exclude =
      (Config.fromRaw compiles { raw with disabledDiagnostics := dd' }).exclude ∧
    (Config.fromRaw compiles raw).fixturePaths = raw.fixturePaths ∧
    (Config.fromRaw compiles raw).skipPlugins = raw.skipPlugins := ⟨rfl, rfl, rfl, rfl⟩

/-- adding entries (valid or not) to either list never removes an accepted entry -/
theorem C19_config_monotone (compiles : String → Bool) (raw : RawConfig) (more : List String) :
    (Config.fromRaw compiles { raw with disabledDiagnostics := raw.disabledDiagnostics ++ more }).disabledDiagnostics =
      (Config.fromRaw compiles raw).disabledDiagnostics ++
        more.filter (fun c => Generated.validDiagnosticCodes.contains c) ∧
    (Config.fromRaw compiles { raw with exclude := raw.exclude ++ more }).exclude =
      (Config.fromRaw compiles raw).exclude ++ more.filter compiles := by
  simp [Config.fromRaw, List.filter_append]

/-- a file that is absent, unreadable, malformed or without the section leaves every default in
    place (nothing disabled, nothing excluded) -/
theorem C19_config_defaults (compiles : String → Bool) (l : Loaded)
    (h : match l with | .table _ => False | _ => True) (c : String) :
    (Config.load compiles l).isDisabled c = false ∧ (Config.load compiles l).exclude = [] := by
  cases l with
  | table raw => exact h.elim
  | _ => exact ⟨rfl, rfl⟩

/-- **C19 (end to end for the configuration).** Under the configuration loaded from a table, a
    diagnostic is published iff it is a finding and its code is not listed; unknown codes in the
    list and the `exclude` entries (valid or not) change nothing. -/
theorem C19_publish_config (compiles : String → Bool) (raw : RawConfig) (st : Index) (f : Path)
    (cy : List Cycle) (res : Def → String → Option Def) (d : Diag) :
    d ∈ st.publish (Config.load compiles (.table raw)) f cy res ↔
      d ∈ st.hDiagnostics [] f cy res ∧ d.code ∉ raw.disabledDiagnostics := by
  unfold publish
  rw [C19_filter, List.mem_filter]
  -- a published diagnostic carries a valid code, so its code is disabled iff it is listed
  exact and_congr_right fun hd => by simp [Config.load, Config.fromRaw, C19_codes st [] f cy res d hd]

/-- … and with no usable table everything is published -/
theorem C19_publish_default (compiles : String → Bool) (l : Loaded)
    (h : match l with | .table _ => False | _ => True) (st : Index) (f : Path) (cy : List Cycle)
    (res : Def → String → Option Def) :
    st.publish (Config.load compiles l) f cy res = st.hDiagnostics [] f cy res := by
  cases l with
  | table raw => exact h.elim
  | _ => rfl

example : (Config.fromRaw (fun p => p != "[") { exclude := ["[", "build"], disabledDiagnostics := ["bogus", "scope-mismatch"] }) =
    { exclude := ["build"], disabledDiagnostics := ["scope-mismatch"] } := by decide +kernel

theorem applyEvent_undeclared_nonscan (pfx f : Path) (st : Index) (e : Event)
    (h : ∀ b, e ≠ .scan b) : (applyEvent pfx f st e).undeclared = st.undeclared := by
  cases e with
  | scan b => exact absurd rfl (h b)
  | _ => rfl

theorem foldl_undeclared_from (pfx f : Path) (es : List Event) (st : Index) (u : Undeclared)
    (h : u ∈ (alookup (es.foldl (applyEvent pfx f) st).undeclared f).getD []) :
    u ∈ (alookup st.undeclared f).getD [] ∨
      ∃ b, Event.scan b ∈ es ∧ ∃ r ∈ b.refs, b.candidate r = true ∧
        u = Undeclared.mk r.name f r.line r.startChar r.endChar b.fnName b.fnLine := by
  revert h
  refine List.foldlRecOn (motive := fun (s : Index) => u ∈ (alookup s.undeclared f).getD [] → _) es _ Or.inl
    fun s ih e he hu => ?_
  cases e with
  | scan b =>
    rw [C17_scan_exact, List.mem_append] at hu
    rcases hu with hu | hu
    · exact ih hu
    · obtain ⟨r, hr, ⟨hc, _⟩, rfl⟩ := mem_scanFindings.mp hu
      exact .inr ⟨b, he, r, hr, hc, rfl⟩
  | _ => exact ih hu

/-- **C19 (undeclared-fixture diagnostics are about the latest content).** After a document's
    valid version has been analysed, every undeclared-fixture finding held for it — hence every
    such diagnostic published next — is a name reference of a function body of THAT version, at
    that reference's own line and columns: nothing of an earlier version survives. -/
theorem C19_undeclared_latest (pfx : Path) (cl : Bool) (st : Index) (f : Path) (v : Version) (fr : FileRec)
    (hv : v.parsed = some fr) (u : Undeclared)
    (h : u ∈ (alookup (analyze pfx cl st f v).1.undeclared f).getD []) :
    ∃ b, Event.scan b ∈ fr.events ∧ ∃ r ∈ b.refs, b.candidate r = true ∧
      u = Undeclared.mk r.name f r.line r.startChar r.endChar b.fnName b.fnLine := by
  rw [analyze_some hv] at h
  rcases foldl_undeclared_from pfx f fr.events _ u h with h1 | h2
  · rw [preState_eq, alookup_aerase_self] at h1; cases h1
  · exact h2

/-- **C19 (removing the cause clears the diagnostic on the next change).** If no function body of
    the new version mentions the name any more, no undeclared-fixture diagnostic for that name is
    published after the change — whatever was published before. -/
theorem C19_clears_undeclared (pfx : Path) (st : Index) (dis : List String) (f : Path) (v : Version)
    (fr : FileRec) (hv : v.parsed = some fr) (n : String) (cy : List Cycle) (res : Def → String → Option Def)
    (hgone : ∀ b, Event.scan b ∈ fr.events → ∀ r ∈ b.refs, r.name ≠ n) :
    ∀ d ∈ (analyze pfx true st f v).1.hDiagnostics dis f cy res, d.code = "undeclared-fixture" →
      d.message ≠ "Fixture '" ++ n ++ "' is used but not declared as a parameter" := by
  intro d hd hcode hmsg
  rcases (mem_hDiagnostics hd).2 with ⟨u, hu, rfl⟩ | ⟨_, _, _, hc, _⟩ | ⟨_, _, hc⟩
  · obtain ⟨b, hb, r, hr, _, rfl⟩ := C19_undeclared_latest pfx true st f v fr hv u hu
    have h1 := congrArg String.toList hmsg
    simp only [String.toList_append] at h1
    exact hgone b hb r hr (String.toList_inj.mp (List.append_cancel_left (List.append_cancel_right h1)))
  · simp [hcode] at hc
  · simp [hcode] at hc

/-- **C19 (scope-mismatch diagnostics are anchored in the latest content).** After a valid
    version of `f` has been analysed (bookkeeping invariant of C06 assumed of the state before),
    every scope-mismatch diagnostic published for `f` is anchored at a fixture definition of that
    version, and is a real scope inversion against the definition the resolver selects for one of
    its dependencies — for the resolver the code uses (`scopeRes`), a definition currently in the
    index. -/
theorem C19_mismatch_latest (pfx : Path) (st : Index) (f : Path) (v : Version) (fr : FileRec)
    (hv : v.parsed = some fr) (hinv : DefsTracked st) (imp : Path → String → Bool)
    (fd dd : Def)
    (h : (fd, dd) ∈ mismatchesIn (analyze pfx true st f v).1.defs
        (scopeRes (analyze pfx true st f v).1.defs imp f)
        ((alookup (analyze pfx true st f v).1.fileDefs f).getD []) f) :
    fd ∈ (eventDefs fr.events).map (stampDef pfx st f) ∧
    dd ∈ (analyze pfx true st f v).1.defs ∧ dd.name ∈ fd.deps ∧ dd.scope < fd.scope := by
  obtain ⟨h1, h2, ⟨dep, hdep, hres⟩, h5⟩ := C16_mismatch_sound _ _ _ _ _ _ h
  obtain ⟨m1, m2, _⟩ := C16_scopeRes_mem _ imp f fd dd dep hres
  refine ⟨?_, m1, by rw [m2]; exact hdep, h5⟩
  rw [C06_defs_after_analyze pfx st f v fr hv hinv, List.mem_append] at h1
  rcases h1 with h1 | h1
  · exact absurd h2 (bne_iff_ne.mp (List.mem_filter.mp h1).2)
  · exact h1

end PLS
