/-
  C20 — CLI reports agree with the language server and are reproducible.
-/
import PLS.Model.Cli
import PLS.Model.Index
import PLS.Props.C04
namespace PLS

/-- **C20 (`fixtures unused` lists exactly the project fixtures that are not autouse and that no
    usage resolves to).** One entry per definition; keys are `(file, name)`. -/
theorem C20_unused_iff (ix : List Def) (imp : Path → String → Bool) (us : List Usage) (f : Path) (n : String) :
    (f, n) ∈ unusedRaw ix imp us ↔
      ∃ d ∈ ix, d.file = f ∧ d.name = n ∧ d.thirdParty = false ∧ d.autouse = false ∧
        cliCount ix imp us d.file d.name = 0 := by
  unfold unusedRaw
  simp only [List.mem_map, List.mem_filter, Bool.and_eq_true, Bool.not_eq_true', beq_iff_eq, Prod.mk.injEq]
  constructor
  · rintro ⟨d, ⟨hd, ⟨⟨htp, hau⟩, hc⟩⟩, hf, hn⟩
    exact ⟨d, hd, hf, hn, htp, hau, hc⟩
  · rintro ⟨d, hd, hf, hn, htp, hau, hc⟩
    exact ⟨d, ⟨hd, ⟨⟨htp, hau⟩, hc⟩⟩, hf, hn⟩

/-- when `(file, name)` identifies one definition, "no usage resolves into the key" is "the
    definition has no references" — the set the server's find-references reports. -/
theorem C20_unused_iff_no_refs (ix : List Def) (imp : Path → String → Bool) (us : List Usage) (D : Def)
    (hD : D ∈ ix) (huniq : ∀ e ∈ ix, e.name = D.name → e.file = D.file → e = D)
    (hp : D.thirdParty = false) (ha : D.autouse = false) :
    (D.file, D.name) ∈ unusedRaw ix imp us ↔ refsFor ix imp us D = [] := by
  rw [C20_unused_iff, ← List.length_eq_zero_iff, ← C04_cli_count_eq_refs ix imp us D huniq]
  constructor
  · rintro ⟨d, hd, hf, hn, _, _, hc⟩
    rwa [huniq d hd hn hf] at hc
  · exact fun h => ⟨D, hD, rfl, rfl, hp, ha, h⟩

/-- **C20 (exit status 1 exactly when the list is non-empty).** -/
theorem C20_exit (unused : List (Path × String)) : unusedExitCode unused = 1 ↔ unused ≠ [] := by
  unfold unusedExitCode
  cases unused <;> simp

/-- **C20 (the two filters of `fixtures list` partition the fixtures).** -/
theorem C20_filters_partition (count : Nat) (autouse : Bool) :
    showOnlyUnused count autouse = !showSkipUnused count autouse := by
  unfold showOnlyUnused showSkipUnused
  rw [Bool.not_or]
  congr 1
  cases count <;> rfl

/-- the printed count of `fixtures list` for a key identifying one definition is the number of
    references the server reports for it -/
theorem C20_counts (ix : List Def) (imp : Path → String → Bool) (us : List Usage) (D : Def)
    (huniq : ∀ e ∈ ix, e.name = D.name → e.file = D.file → e = D) :
    cliCount ix imp us D.file D.name = (refsFor ix imp us D).length :=
  C04_cli_count_eq_refs ix imp us D huniq

theorem insertPN_perm : ∀ (x : Path × String) (l : List (Path × String)), (Index.insertPN x l).Perm (x :: l) :=
  perm_insert (c := fun x y => Index.pathLt x.1 y.1 || (x.1 == y.1 && x.2 < y.2)) (fun _ => rfl) fun _ _ _ => rfl

/-- sorting by (path, name) only permutes the entries -/
theorem C20_sorted_is_perm (l : List (Path × String)) : (l.foldr Index.insertPN []).Perm l :=
  perm_foldr_insert insertPN_perm l

end PLS
